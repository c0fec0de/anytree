import Anytree.Lemmas.Walk
/-!
# C01 — parent and children links always describe one consistent forest

`Inv` is preserved by **every** structural call of the mirror: for every forest, every
(well-formed) argument, every fault schedule `φ` of the eight hooks (any hook raising at any
invocation, once or persistently), both flavours, both assertion settings and every amount of
fuel — whether the call returns, is refused, is aborted by a hook, or runs out of fuel.
Hence for every finite history (`inv_history`).
-/
namespace Anytree.Props.C01

theorem inv_empty : Inv Forest.empty :=
  ⟨by intro c p; simp [Forest.empty], by intro p; simp [Forest.empty],
   by intro x; exact ⟨1, by simp [Forest.up, Forest.empty]⟩, by intro x _; simp [Forest.empty]⟩

theorem up_newNode (s : Forest) (k x : Nat) : s.newNode.up k x = s.up k x := by
  fun_induction Forest.up s k x with
  | case1 x => rfl
  | case2 k x hp => exact Forest.up_succ_root (s := s.newNode) hp k
  | case3 k x p hp ih => rw [Forest.up_succ_of_parent (s := s.newNode) hp]; exact ih

theorem inv_newNode {s : Forest} (h : Inv s) : Inv s.newNode :=
  ⟨h.bidir, h.nodup, by intro x; obtain ⟨k, hk⟩ := h.term x; exact ⟨k, by rw [up_newNode]; exact hk⟩,
   by intro x hx; exact h.supp x (Nat.le_of_succ_le hx)⟩

/-- C01 across the two statements between `# ATOMIC START` and `# ATOMIC END` of `__detach`.  The
same statement as `Anytree.inv_detachRaw` (`Lemmas/Forest.lean`), which is the one to use in proofs -/
theorem inv_detachRaw {s : Forest} (h : Inv s) {n p : Nat} (hp : s.parent n = some p) :
    Inv (s.detachRaw n p) := Anytree.inv_detachRaw h hp

/-- C01 across the two statements of `__attach`, for a parentless `n` whose new parent `p` is not
below it (what `__check_loop` has established).  Use `Anytree.inv_attachRaw` in proofs -/
theorem inv_attachRaw {s : Forest} (h : Inv s) {n p : Nat} (hroot : s.parent n = none)
    (hloop : ∀ j, s.up j p ≠ some n) (hn : n < s.n) (hpn : p < s.n) :
    Inv (s.attachRaw n p) := Anytree.inv_attachRaw h hroot hloop hn hpn

/-- when `__check_loop` lets `n.parent = p` pass, `n` is neither `p` nor an ancestor of `p`: the move
closes no loop.  Use `Anytree.onChain_false` (`Lemmas/Chain.lean`) in proofs -/
theorem onChain_false {s : Forest} {n : Nat} (fuel p : Nat) (h : onChain s n fuel p = some false) :
    ∀ j, s.up j p ≠ some n := Anytree.onChain_false fuel p h

def ArgsOk (k : Nat) : Option (List Arg) → Prop
  | none => True
  | some xs => ∀ x ∈ xs, ArgOk k (some x)

instance (k : Nat) (xs : Option (List Arg)) : Decidable (ArgsOk k xs) := by
  cases xs with
  | none => exact isTrue trivial
  | some xs => exact inferInstanceAs (Decidable (∀ x ∈ xs, ArgOk k (some x)))

theorem argsToNodes_lt {k : Nat} : ∀ (xs : List Arg), (∀ x ∈ xs, ArgOk k (some x)) →
    ∀ y ∈ argsToNodes xs, y < k := by
  intro xs
  induction xs with
  | nil => intro _ y hy; simp [argsToNodes] at hy
  | cons a as ih =>
    intro h y hy
    cases a with
    | nonNode => exact ih (fun x hx => h x (by simp [hx])) y (by simpa [argsToNodes] using hy)
    | node p =>
      simp only [argsToNodes, List.mem_cons] at hy
      cases hy with
      | inl e => subst e; exact h (.node y) (by simp)
      | inr hy => exact ih (fun x hx => h x (by simp [hx])) y hy

def KidsOk (k : Nat) : CtorKids → Prop
  | .list xs => ∀ x ∈ xs, ArgOk k (some x)
  | _ => True

instance (k : Nat) (cs : CtorKids) : Decidable (KidsOk k cs) := by
  cases cs with
  | list xs => exact inferInstanceAs (Decidable (∀ x ∈ xs, ArgOk k (some x)))
  | none => exact isTrue trivial
  | nonIterable => exact isTrue trivial

/-- an op only names objects that exist -/
def WellFormed (s : Forest) : Op → Prop
  | .setParent n v => n < s.n ∧ ArgOk s.n v
  | .setChildren n xs => n < s.n ∧ ArgsOk s.n xs
  | .delChildren n => n < s.n
  | .ctor p cs => ArgOk s.n p ∧ KidsOk s.n cs

instance (s : Forest) (op : Op) : Decidable (WellFormed s op) := by
  cases op <;> (unfold WellFormed; exact inferInstance)

theorem argOk_mono {k : Nat} {v : Option Arg} (h : ArgOk k v) : ArgOk (k+1) v := by
  match v, h with
  | some (.node p), h => exact Nat.lt_succ_of_lt h
  | some .nonNode, _ => trivial
  | none, _ => trivial

theorem checkChildren_err {fl : Flavor} (as : List Arg) (seen : List Nat) (e : Err)
    (h : checkChildren fl seen as = .error e) : e = .treeError ∨ e = .unmodelled := by
  rw [Props.C02.checkChildren_eq_firstBad] at h
  cases hb : Spec.firstBad fl seen as with
  | none => rw [hb] at h; cases h
  | some e' =>
    rw [hb] at h
    cases h
    exact (Spec.firstBad_range fl as seen e hb).imp_right And.right

/-- `Triple (onF (InvSize k)) a … (OnRaise c k fuel)`: from a consistent forest of `k` objects, `a`
keeps consistency whether it returns or raises (`Lemmas/Walk.lean`) -/
theorem setChildren_onRaise (k : Nat) (c : Cfg) (fuel n : Nat) (xs : Option (List Arg)) (hn : n < k)
    (hxs : ArgsOk k xs) : Triple (onF (InvSize k)) (setChildren c fuel n xs) (onF (InvSize k)) (OnRaise c k fuel) := by
  unfold setChildren
  cases xs with
  | none => exact Triple.throw _ fun _ h => OnRaise.refusal h (Or.inl rfl)
  | some as =>
    simp only
    cases hc : checkChildren c.fl [] as with
    | error e => exact Triple.throw _ fun _ h => OnRaise.refusal h (Or.inr (checkChildren_err as [] e hc))
    | ok u =>
      cases u
      exact setChildrenNodes_onRaise k c fuel n _ hn (argsToNodes_lt as hxs) ((checkChildren_ok_iff as []).1 hc).1

/-- the same for a constructor, which adds one object -/
theorem ctor_onRaise (k : Nat) (c : Cfg) (fuel : Nat) (p : Option Arg) (cs : CtorKids)
    (hp : ArgOk k p) (hcs : KidsOk k cs) :
    Triple (onF (InvSize k)) (ctor c fuel p cs) (onF (InvSize (k+1))) (OnRaise c (k+1) fuel) := by
  intro w hw
  have hme : w.f.n < k + 1 := hw.size ▸ Nat.lt_succ_self _
  have hnew : Triple (onF (InvSize k)) (M.modify Forest.newNode) (onF (InvSize (k+1))) (OnRaise c (k+1) fuel) :=
    Triple.modify fun f hf => ⟨inv_newNode hf.inv, congrArg (· + 1) hf.size⟩
  refine (Triple.seq (Triple.seq hnew (setParent_onRaise (k+1) c fuel w.f.n p hme (argOk_mono hp))) ?_).run hw
  cases cs with
  | none => exact Triple.ok
  | nonIterable => exact setChildren_onRaise (k+1) c fuel _ none hme trivial
  | list xs =>
    cases xs with
    | nil => exact Triple.ok
    | cons x xs => exact setChildren_onRaise (k+1) c fuel _ _ hme fun y hy => argOk_mono (hcs y hy)

/-- … and for every op: `k'` is `s.n`, for a constructor `s.n + 1` -/
theorem run_onRaise (c : Cfg) (fuel : Nat) (op : Op) (s : Forest) (hwf : WellFormed s op) :
    ∃ k', k' ≤ s.n + 1 ∧ Triple (onF (InvSize s.n)) (op.run c fuel) (onF (InvSize k')) (OnRaise c k' fuel) := by
  cases op with
  | setParent n v => exact ⟨_, Nat.le_succ _, setParent_onRaise s.n c fuel n v hwf.1 hwf.2⟩
  | setChildren n xs => exact ⟨_, Nat.le_succ _, setChildren_onRaise s.n c fuel n xs hwf.1 hwf.2⟩
  | delChildren n => exact ⟨_, Nat.le_succ _, delChildren_onRaise s.n c fuel n⟩
  | ctor p cs => exact ⟨_, Nat.le_refl _, ctor_onRaise s.n c fuel p cs hwf.1 hwf.2⟩

/-- **every structural call**, whatever the arguments, the fault schedule, the flavour, the assertion
switch and the fuel: C01 (consistency), C01b (no assertion), C01c/C01d (the fuel suffices) -/
theorem exec_onRaise (c : Cfg) (fuel : Nat) (op : Op) (s : Forest) (h : Inv s) (hwf : WellFormed s op) :
    Safe c (s.n + 1) fuel (exec c fuel op s).res (exec c fuel op s).f := by
  obtain ⟨k', hk', ht⟩ := run_onRaise c fuel op s hwf
  have := OnRaise.exec ht ⟨h, rfl⟩
  exact ⟨this.inv, this.ne_assertion, fun B hB hf => this.ne_diverged B hB
    (Nat.le_trans (Nat.add_le_add_right (Nat.add_le_add_right hk' B) 3) hf)⟩

/-- **C01, one step**: whatever the call, the arguments, the fault schedule, the flavour, the
assertion switch and the fuel — and whether the call returns or raises — the forest stays
consistent. -/
theorem inv_exec (c : Cfg) (fuel : Nat) (op : Op) (s : Forest) (h : Inv s) (hwf : WellFormed s op) :
    Inv (exec c fuel op s).f :=
  (exec_onRaise c fuel op s h hwf).inv

theorem inv_setParent (c : Cfg) (fuel : Nat) (s : Forest) (n : Nat) (v : Option Arg) (h : Inv s)
    (hwf : WellFormed s (.setParent n v)) : Inv (exec c fuel (.setParent n v) s).f :=
  inv_exec c fuel _ s h hwf

/-- C01 for `del n.children`, with no assumption on `n` (so stronger than the instance of `inv_exec`) -/
theorem inv_delChildren (c : Cfg) (fuel : Nat) (s : Forest) (n : Nat) (h : Inv s) :
    Inv (exec c fuel (.delChildren n) s).f :=
  (OnRaise.exec (delChildren_onRaise s.n c fuel n) ⟨h, rfl⟩).inv

theorem inv_setChildren (c : Cfg) (fuel : Nat) (s : Forest) (n : Nat) (xs : Option (List Arg))
    (h : Inv s) (hwf : WellFormed s (.setChildren n xs)) :
    Inv (exec c fuel (.setChildren n xs) s).f :=
  inv_exec c fuel _ s h hwf

theorem inv_ctor (c : Cfg) (fuel : Nat) (s : Forest) (p : Option Arg) (cs : CtorKids) (h : Inv s)
    (hwf : WellFormed s (.ctor p cs)) : Inv (exec c fuel (.ctor p cs) s).f :=
  inv_exec c fuel _ s h hwf

/-- a history: each call with its own configuration (fault schedule, assertion switch) -/
def runHistory (fuel : Nat) : List (Cfg × Op) → Forest → Forest
  | [], s => s
  | (c, op) :: rest, s => runHistory fuel rest (exec c fuel op s).f

/-- every call of the history names existing objects, at the point where it is made -/
def WellFormedHistory (fuel : Nat) : List (Cfg × Op) → Forest → Prop
  | [], _ => True
  | (c, op) :: rest, s => WellFormed s op ∧ WellFormedHistory fuel rest (exec c fuel op s).f

def decWFH (fuel : Nat) : (hist : List (Cfg × Op)) → (s : Forest) → Decidable (WellFormedHistory fuel hist s)
  | [], _ => isTrue trivial
  | (c, op) :: rest, s =>
    have := decWFH fuel rest (exec c fuel op s).f
    inferInstanceAs (Decidable (WellFormed s op ∧ WellFormedHistory fuel rest (exec c fuel op s).f))

instance (fuel : Nat) (hist : List (Cfg × Op)) (s : Forest) : Decidable (WellFormedHistory fuel hist s) :=
  decWFH fuel hist s

/-- **C01**: along any finite history from a consistent forest — the empty one is (`inv_empty`) — the
links stay consistent -/
theorem inv_history (fuel : Nat) (hist : List (Cfg × Op)) :
    ∀ s, Inv s → WellFormedHistory fuel hist s → Inv (runHistory fuel hist s) := by
  induction hist with
  | nil => intro s h _; exact h
  | cons co rest ih =>
    intro s h hwf
    obtain ⟨c, op⟩ := co
    exact ih _ (inv_exec c fuel op s h hwf.1) hwf.2

/-- `n` appears in `p.children` exactly once iff `n.parent is p` -/
theorem child_count_eq_one_iff_parent {s : Forest} (h : Inv s) (n p : Nat) :
    (s.children p).count n = 1 ↔ s.parent n = some p := by
  rw [h.bidir n p]
  constructor
  · intro hc
    exact List.count_pos_iff.mp (hc ▸ Nat.zero_lt_one)
  · intro hm
    exact Nat.le_antisymm (List.nodup_iff_count.mp (h.nodup p) n) (List.count_pos_iff.mpr hm)

/-- … and in no other node's children -/
theorem not_in_other_children {s : Forest} (h : Inv s) {n p q : Nat} (hp : s.parent n = some p)
    (hq : q ≠ p) : n ∉ s.children q := by
  intro hm
  have := (h.bidir n q).2 hm
  rw [hp] at this
  exact hq (Option.some.inj this).symm

/-- no node is its own ancestor -/
theorem no_self_ancestor {s : Forest} (h : Inv s) (x : Nat) : ∀ k, 0 < k → s.up k x ≠ some x :=
  h.no_self_ancestor x

/-- a detached node is the root of its own tree -/
theorem detached_is_root {s : Forest} (h : Inv s) {n : Nat} (hp : s.parent n = none) :
    (∀ q, n ∉ s.children q) ∧ s.up 1 n = none :=
  ⟨h.not_mem_of_root hp, Forest.up_succ_root hp 0⟩

-- non-vacuity: a six-node, two-tree forest satisfies the invariant's decidable rendering, and the
-- K1 call on it (a vetoed move) ends in a state that still does
def s6 : Forest := runHistory 64
  [(⟨.nm, true, noFaults⟩, .ctor none .none), (⟨.nm, true, noFaults⟩, .ctor (some (.node 0)) .none),
   (⟨.nm, true, noFaults⟩, .ctor (some (.node 0)) .none), (⟨.nm, true, noFaults⟩, .ctor (some (.node 1)) .none),
   (⟨.nm, true, noFaults⟩, .ctor none .none), (⟨.nm, true, noFaults⟩, .ctor (some (.node 4)) .none)]
  Forest.empty
example : s6.snap = [(none, [1, 2]), (some 0, [3]), (some 0, []), (some 1, []), (none, [5]), (some 4, [])] ∧
    Spec.invB s6 = true ∧
    Spec.invB (exec ⟨.nm, true, fun i _ _ => i == 2⟩ 64 (.setParent 3 (some (.node 4))) s6).f = true := by
  decide

end Anytree.Props.C01
