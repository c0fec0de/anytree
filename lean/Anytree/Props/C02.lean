import Anytree.Lemmas.Quiet
import Anytree.Props.C01
/-!
# C02 — attach, move, detach and children assignment have exactly the specified effect

For every consistent forest, every argument and every flavour, the mirror of a structural call
that no hook vetoes equals the closed-form specification `Spec.*` (refusal class decided on the
pre-state, final links without loops).  The `*_effect` / `*_iff` theorems then spell the
specification out in the words of the property.  Where the fuel side conditions of C02, C02b and C03b
(`s.n < fuel`, `+ 2`, `+ 3`, `+ 4`) come from is said at `setChildrenNodes_window` (Lemmas/Quiet).
-/
namespace Anytree.Props.C02

/-- **C02, parent assignment**: when no hook raises, `n.parent = v` from a consistent forest ends with the
result class, the links and the complete hook log of the closed-form specification -/
theorem setParent_eq_spec (c : Cfg) (hφ : c.φ = noFaults) (fuel : Nat) (s : Forest) (n : Nat)
    (v : Option Arg) (h : Inv s) (hv : ArgOk s.n v) (hfuel : s.n < fuel) :
    let o := exec c fuel (.setParent n v) s
    let r := Spec.setParent c.fl s n v
    o.res = r.res ∧ o.f = r.f ∧ o.log = r.log := by
  simp only [exec, Op.run, setParent_window fuel n v ⟨s, [], 0⟩ h hv hfuel (.of_noFaults hφ _ _), World.adv]
  simp

/-- **C02, `del n.children`**: when no hook raises, result class, links and complete hook log are those of
the closed-form specification (the fuel bound is in the statement and is not used) -/
theorem delChildren_eq_spec (c : Cfg) (hφ : c.φ = noFaults) (fuel : Nat) (s : Forest) (n : Nat)
    (h : Inv s) (hfuel : s.n < fuel) :
    let o := exec c fuel (.delChildren n) s
    let r := Spec.delChildren s n
    o.res = r.res ∧ o.f = r.f ∧ o.log = r.log := by
  simp only [exec, Op.run, delChildren_window fuel n ⟨s, [], 0⟩ h (.of_noFaults hφ _ _), World.adv]
  simp [Spec.delChildren]

/-- refused with TreeError exactly when (NodeMixin flavour) the new parent is not a tree node -/
theorem setParent_treeError_iff (fl : Flavor) (s : Forest) (n : Nat) (v : Option Arg) :
    (Spec.setParent fl s n v).res = .error .treeError ↔ (fl = .nm ∧ v = some .nonNode) := by
  match v with
  | none => simp [Spec.setParent]
  | some .nonNode => cases fl <;> simp [Spec.setParent]
  | some (.node p) =>
    simp only [Spec.setParent]
    split
    · simp
    · split <;> simp

/-- … otherwise with LoopError exactly when the new parent is the node itself or one of its
descendants (the assignment would make the node its own ancestor), unless it is the parent the
node already has.  (From a consistent forest that exception cannot occur: the conjunct
`s.parent n ≠ some p` follows from the other one, a node being no descendant of itself.) -/
theorem setParent_loopError_iff (fl : Flavor) (s : Forest) (h : Inv s) (n p : Nat) (hp : p < s.n) :
    (Spec.setParent fl s n (some (.node p))).res = .error .loopError ↔
      (s.parent n ≠ some p ∧ (p = n ∨ ∃ k, 0 < k ∧ s.up k p = some n)) := by
  rw [← h.isAnc_iff hp]
  simp only [Spec.setParent]
  by_cases hs : s.parent n = some p
  · simp [hs]
  · have e : (p = n ∨ Spec.isAnc s n p = true) ↔ (decide (p = n) || Spec.isAnc s n p) = true := by simp
    simp only [hs, if_false, ne_eq, not_false_eq_true, true_and, e]
    split <;> simp [*]

/-- assigning the parent the node already has changes nothing — not even sibling order — and
fires no hook -/
theorem setParent_same (fl : Flavor) (s : Forest) (n p : Nat) (hs : s.parent n = some p) :
    Spec.setParent fl s n (some (.node p)) = ⟨.ok (), s, []⟩ := by
  simp [Spec.setParent, hs]

/-- `n.parent = None` on a parentless node changes nothing and fires no hook -/
theorem setParent_none_root (fl : Flavor) (s : Forest) (n : Nat) (hs : s.parent n = none) :
    Spec.setParent fl s n none = ⟨.ok (), s, []⟩ := by
  simp [Spec.setParent, Spec.detached_root hs, Spec.detachLog_root hs]

/-- a successful move: `n` leaves its former parent's children (the others keep their order) and
becomes the last child of `p`; every other node keeps its parent and its children list -/
theorem setParent_effect (fl : Flavor) (s : Forest) (h : Inv s) (n p : Nat)
    (hok : (Spec.setParent fl s n (some (.node p))).res = .ok ()) (hne : s.parent n ≠ some p) :
    let s' := (Spec.setParent fl s n (some (.node p))).f
    s'.parent n = some p ∧
    s'.children p = (s.children p) ++ [n] ∧
    (∀ q, s.parent n = some q → s'.children q = (s.children q).filter (· != n)) ∧
    (∀ y, y ≠ n → s'.parent y = s.parent y) ∧
    (∀ x, x ≠ p → s.parent n ≠ some x → s'.children x = s.children x) := by
  -- taking `n` out of a children list that does not hold it changes nothing
  have hfil : ∀ q, s.parent n ≠ some q → (s.children q).filter (· != n) = s.children q :=
    fun q hq => filter_ne_of_not_mem fun ha => hq ((h.bidir n q).2 ha)
  rw [Spec.setParent_of_ok hok hne]
  simp only [Spec.moved_parent, Spec.moved_children h, if_true]
  refine ⟨trivial, by rw [hfil p hne], fun q hq => ?_, fun y hy => by simp [hy],
    fun x hx hnx => by simp [hx, hfil x hnx]⟩
  have hqp : q ≠ p := by rintro rfl; exact hne hq
  simp [hqp]

/-- `n.parent = None` makes `n` a root and takes it out of its former parent's children -/
theorem setParent_none_effect (fl : Flavor) (s : Forest) (h : Inv s) (n : Nat) :
    let r := Spec.setParent fl s n none
    r.res = .ok () ∧ r.f.parent n = none ∧
    (∀ q, r.f.children q = (s.children q).filter (· != n)) ∧
    (∀ y, y ≠ n → r.f.parent y = s.parent y) :=
  ⟨rfl, by simp [Spec.setParent, Spec.detached_parent], fun q => Spec.detached_children h n q,
    fun y hy => by simp [Spec.setParent, Spec.detached_parent, hy]⟩

/-- `del n.children` makes every child a root, empties `n.children`, and leaves every other
node's parent and children as they were -/
theorem delChildren_effect (s : Forest) (h : Inv s) (n : Nat) :
    let r := Spec.delChildren s n
    r.res = .ok () ∧ r.f.children n = [] ∧
    (∀ q, q ≠ n → r.f.children q = s.children q) ∧
    (∀ y, r.f.parent y = if s.parent y = some n then none else s.parent y) :=
  have D := Spec.delChildren_props h n
  ⟨rfl, D.children_self, D.children_other, D.parent⟩

/-- a successful `n.children = xs` (distinct existing nodes, none of them `n` or an ancestor of
`n`): mirror = closed-form specification — result, links and the complete hook log -/
theorem setChildren_eq_spec (c : Cfg) (hφ : c.φ = noFaults) (fuel : Nat) (s : Forest) (n : Nat)
    (xs : List Nat) (h : Inv s) (hfuel : s.n + 2 < fuel) (hn : n < s.n) (hnd : xs.Nodup)
    (hlt : ∀ x ∈ xs, x < s.n) (hok : ∀ x ∈ xs, x ≠ n ∧ Spec.isAnc s x n = false) :
    let o := exec c fuel (.setChildren n (some (xs.map Arg.node))) s
    let r := Spec.setChildren c.fl s n (some (xs.map Arg.node))
    o.res = r.res ∧ o.f = r.f ∧ o.log = r.log := by
  have hr := Spec.setChildren_ok c.fl s n xs hnd hok
  simp only [exec, Op.run, setChildren_window fuel ⟨s, [], 0⟩ ⟨h, hn, hnd, hlt, hok⟩ hfuel (.of_noFaults hφ _ _), World.adv]
  simp [hr]

/-- … and in the words of the property: `n.children == tuple(xs)` in that order, former children of
`n` that are not in `xs` are roots, every `x` has left its former parent, every node not named by
the call keeps its parent and its children list (minus the moved nodes) -/
theorem setChildren_effect (fl : Flavor) (s : Forest) (h : Inv s) (n : Nat) (xs : List Nat)
    (hn : n < s.n) (hnd : xs.Nodup) (hlt : ∀ x ∈ xs, x < s.n)
    (hok : ∀ x ∈ xs, x ≠ n ∧ Spec.isAnc s x n = false) :
    let r := Spec.setChildren fl s n (some (xs.map Arg.node))
    r.res = .ok () ∧ r.f.children n = xs ∧
    (∀ y, r.f.parent y =
      if xs.contains y then some n else if s.parent y = some n then none else s.parent y) ∧
    (∀ q, q ≠ n → r.f.children q = (s.children q).filter (fun c => !xs.contains c)) :=
  Spec.setChildren_effect fl s h n xs hn hnd hlt hok

-- non-vacuity: the hypotheses of the effect theorems are met by a concrete move
example :
    (Spec.setParent .nm Anytree.Props.C01.s6 3 (some (.node 4))).res = .ok () ∧
    Anytree.Props.C01.s6.parent 3 ≠ some 4 ∧
    (Spec.setParent .nm Anytree.Props.C01.s6 3 (some (.node 4))).f.snap =
      [(none, [1, 2]), (some 0, []), (some 0, []), (some 4, []), (none, [5, 3]), (some 4, [])] :=
  ⟨by rfl, by decide, by decide⟩

end Anytree.Props.C02
