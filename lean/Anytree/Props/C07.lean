import Anytree.Lemmas.Resolver
/-!
# C07 — Resolver.get returns the node a path denotes and fails cleanly when none exists

On component lists: the loop of `get` is the walk `Spec.walkPath`, whose error is that of the first
failing component; the names along an address lead down to it, `..` leads up, so the absolute and the
walker-relative component lists of a node resolve to it.  On path strings (`get_eq_spec`): for a
non-empty separator.  `Props/C07b.lean` carries the round trip over to path strings.
-/
namespace Anytree.Props.C07
open Tree Resolver Spec ResolverLemmas
variable {α : Type}

/-- the component loop is the component-by-component walk; with `relax` a failing step gives `None` -/
theorem getLoop_eq_walk (c : Ctx α) (parts : List String) (a : Addr) :
    getLoop c parts a =
      (match walkPath c parts a with
       | .ok n => .ok (some n)
       | .error e => if c.relax then .ok none else .error e) := by
  induction parts generalizing a with
  | nil => rfl
  | cons p ps ih =>
    rw [getLoop_cons, walkPath, stepS_cons]
    cases comp p with
    | up =>
      simp only []
      cases a
      · rfl
      · exact ih _
    | stay => exact ih a
    | deep | named =>
      simp only []
      cases getChild c a p with
      | none => rfl
      | some ch => exact ih ch

/-- a strict result seen through `relax`: a failure is `None` -/
def relaxed (c : Ctx α) : Except RErr Addr → Except RErr (Option Addr)
  | .ok n => .ok (some n)
  | .error e => if c.relax then .ok none else .error e

theorem getS_eq (c : Ctx α) (a : Addr) (path : String) :
    getS c a path = relaxed c (getStrictS c a path) := by
  unfold getS; cases getStrictS c a path <;> rfl

theorem getLoop_eq_relaxed (c : Ctx α) (parts : List String) (a : Addr) :
    getLoop c parts a = relaxed c (walkPath c parts a) := getLoop_eq_walk c parts a

/-- mirror = specification; for `sep = ""` still in strict mode, where both raise -/
theorem get_eq_spec_of (c : Ctx α) (h : c.sep ≠ "" ∨ c.relax = false) (a : Addr) (path : String) :
    Resolver.get c a path = Spec.getS c a path := by
  have hne : Str.startsWith path c.sep = true → c.sep ≠ "" → (Str.split c.sep path).drop 1 ≠ [] :=
    fun hs hsep => Str.split_drop_one_ne_nil _ _ hsep hs
  rw [getS_eq]
  unfold Resolver.get start getStrictS
  simp only []
  generalize Str.startsWith path c.sep = b at hne ⊢
  cases b with
  | false => simp only [Bool.false_eq_true, if_false]; exact getLoop_eq_relaxed c _ a
  | true =>
    simp only [if_true]
    generalize (Str.split c.sep path).drop 1 = d at hne ⊢
    rcases d with _ | ⟨p0, rest⟩
    · -- only for `sep = ""`: both sides raise, unless `relax`
      rcases h with hsep | hr
      · exact absurd rfl (hne rfl hsep)
      · simp only [relaxed, hr]; rfl
    · simp only []
      cases (p0 == "") with
      | true => simp only [if_true, relaxed]; cases c.relax <;> rfl
      | false =>
        simp only [Bool.false_eq_true, if_false]
        cases cmp c.ignorecase (c.name []) p0 with
        | false => simp only [Bool.not_false, if_true, relaxed]; cases c.relax <;> rfl
        | true => exact getLoop_eq_relaxed c rest []

/-- **mirror = specification** for every tree, start node and path string, for a non-empty
separator.  (For `sep = ""` — where Python's `str.split` raises `ValueError`, so the model is outside
its domain — `startsWith` always holds and `split` returns one piece, the mirror takes the
"cannot happen" branch and raises even with `relax`, whereas `getS` returns `None`.) -/
theorem get_eq_spec (c : Ctx α) (hsep : c.sep ≠ "") (a : Addr) (path : String) :
    Resolver.get c a path = Spec.getS c a path := get_eq_spec_of c (.inl hsep) a path

/-- strict `get` is the strict specification — also for `sep = ""` -/
theorem get_strict (c : Ctx α) (hr : c.relax = false) (a : Addr) (path : String) :
    Resolver.get c a path =
      (match getStrictS c a path with
       | .ok n => .ok (some n)
       | .error e => .error e) := by
  rw [get_eq_spec_of c (.inr hr), getS]; cases getStrictS c a path <;> simp [hr]

/-- `relax=True` returns `None` in exactly the cases where strict mode raises, and never raises
(non-empty separator, see `get_eq_spec`) -/
theorem get_relaxed (c : Ctx α) (hsep : c.sep ≠ "") (a : Addr) (path : String) :
    Resolver.get { c with relax := true } a path =
      (match Resolver.get { c with relax := false } a path with
       | .ok r => .ok r
       | .error _ => .ok none) := by
  rw [get_eq_spec { c with relax := true } hsep, get_eq_spec { c with relax := false } hsep]
  unfold getS
  rw [getStrictS_relax c true, getStrictS_relax c false]
  cases getStrictS c a path <;> simp

/-- the error is that of the first failing component: `..` above the root ↦ RootResolverError on the
root, an unknown child ↦ ChildResolverError on the node reached so far -/
theorem walk_error_class (c : Ctx α) (parts : List String) (a : Addr) (e : RErr)
    (h : walkPath c parts a = .error e) :
    ∃ pre p post b, parts = pre ++ p :: post ∧ walkPath c pre a = .ok b ∧ stepS c b p = .error e ∧
      ((p = ".." ∧ b = [] ∧ e = .root []) ∨ (e = .child b p ∧ getChild c b p = none)) := by
  induction parts generalizing a with
  | nil => simp [walkPath] at h
  | cons p ps ih =>
    simp only [walkPath] at h
    cases hstep : stepS c a p with
    | ok b' =>
      rw [hstep] at h
      obtain ⟨pre, p', post, b, h1, h2, h3, h4⟩ := ih b' h
      refine ⟨p :: pre, p', post, b, by simp [h1], ?_, h3, h4⟩
      simp only [walkPath, hstep]; exact h2
    | error e' =>
      rw [hstep] at h
      simp only [Except.error.injEq] at h
      subst h
      exact ⟨[], p, ps, a, rfl, rfl, hstep, stepS_error hstep⟩

/-- the address leads to a node of the tree -/
def Valid (c : Ctx α) (a : Addr) : Prop := (sub c.r a).isSome = true

/-- every name used as a path component is usable: not empty, not `.`/`..` (those spellings are
reserved by the first sentence of the property) -/
def NamesUsable (c : Ctx α) : Prop := ∀ a, Valid c a → a ≠ [] → c.name a ≠ "" ∧ c.name a ≠ "." ∧ c.name a ≠ ".."

/-- a property of all valid addresses is a property of the finite list `addrs`: facts about a
concrete tree can then be evaluated -/
theorem forall_valid_iff (c : Ctx α) (P : Addr → Prop) :
    (∀ a, Valid c a → P a) ↔ ∀ a ∈ Tree.addrs c.r, P a :=
  forall_congr' fun a => by rw [Valid, ← Tree.mem_addrs]

theorem siblingUnique_iff (c : Ctx α) : SiblingUnique c ↔
    ∀ a ∈ Tree.addrs c.r, ∀ x ∈ c.children a, ∀ y ∈ c.children a,
      cmp c.ignorecase (c.name x) (c.name y) = true → x = y := by
  refine ⟨fun h a _ x hx y hy => h a x y hx hy, fun h a x y hx hy => ?_⟩
  by_cases hv : a ∈ Tree.addrs c.r
  · exact h a hv x hx y hy
  · -- an invalid address has no children
    rw [Tree.mem_addrs, Bool.not_eq_true, Option.isSome_eq_false_iff, Option.isNone_iff_eq_none] at hv
    simp [Ctx.children, Nav.childAddrs, hv] at hx

/-- a prefix of a valid address is valid -/
theorem Valid.prefix {c : Ctx α} {a b : Addr} (h : Valid c (a ++ b)) : Valid c a := by
  rw [Valid, Tree.sub_append] at h
  exact Option.isSome_of_isSome_bind h

theorem step_child (c : Ctx α) (hu : SiblingUnique c) (hn : NamesUsable c) (a : Addr) (i : Nat)
    (hv : Valid c (a ++ [i])) (hrefl : ∀ s, cmp c.ignorecase s s = true) :
    stepS c a (c.name (a ++ [i])) = .ok (a ++ [i]) := by
  obtain ⟨h1, h2, h3⟩ := hn (a ++ [i]) hv (by simp)
  have hmem : a ++ [i] ∈ c.children a :=
    (mem_children_iff c a _).mpr ⟨i, Spec.lt_nkids_of_valid c.r a i hv, rfl⟩
  rw [stepS_name c a ⟨h1, h2, h3⟩, getChild]
  cases hf : (c.children a).find? (fun ch => cmp c.ignorecase (c.name ch) (c.name (a ++ [i]))) with
  | none =>
    have := List.find?_eq_none.mp hf (a ++ [i]) hmem
    simp [hrefl] at this
  | some y =>
    have hy := List.find?_some hf
    have hym := List.mem_of_find?_eq_some hf
    simp only
    rw [hu a y (a ++ [i]) hym hmem hy]

/-- **downward**: from `a`, the names along a valid address `a ++ b` lead to `a ++ b`, when sibling
names are unique under the resolver's comparison -/
theorem walk_down (c : Ctx α) (hu : SiblingUnique c) (hn : NamesUsable c) (a b : Addr)
    (hv : Valid c (a ++ b)) (hrefl : ∀ s, cmp c.ignorecase s s = true) :
    walkPath c (((prefixes b).drop 1).map (fun p => c.name (a ++ p))) a = .ok (a ++ b) := by
  induction b generalizing a with
  | nil => simp [prefixes, walkPath]
  | cons i b ih =>
    have hv' : Valid c ((a ++ [i]) ++ b) := by simpa using hv
    have hvi : Valid c (a ++ [i]) := hv'.prefix
    rw [prefixes_cons_drop]
    simp only [List.map_cons, walkPath, step_child c hu hn a i hvi hrefl, List.map_map]
    have := ih (a ++ [i]) hv'
    simp only [List.append_assoc, List.singleton_append] at this
    exact this

/-- **upward**: `k` times `..` from an address of length ≥ k climbs `k` levels -/
theorem walk_up (c : Ctx α) (a : Addr) (k : Nat) (hk : k ≤ a.length) :
    walkPath c (List.replicate k "..") a = .ok (a.take (a.length - k)) := by
  induction k generalizing a with
  | zero => rw [Nat.sub_zero, List.take_length]; rfl
  | succ k ih =>
    have hne : a ≠ [] := fun h => by rw [h] at hk; cases hk
    rw [List.replicate_succ, walkPath, stepS_up c hne]
    show walkPath c _ a.dropLast = _
    rw [ih _ (List.length_dropLast ▸ Nat.le_sub_one_of_lt hk), List.length_dropLast,
      List.dropLast_eq_take, List.take_take, Nat.min_eq_left (Nat.sub_le _ _), Nat.sub_sub,
      Nat.add_comm 1 k]

/-- `walkPath` over a concatenation -/
theorem walk_append (c : Ctx α) (p q : List String) (a : Addr) :
    walkPath c (p ++ q) a = (match walkPath c p a with | .ok b => walkPath c q b | .error e => .error e) := by
  induction p generalizing a with
  | nil => simp [walkPath]
  | cons x xs ih =>
    simp only [List.cons_append, walkPath]
    cases stepS c a x with
    | ok b => simp only []; exact ih _
    | error e => simp

/-- **get(m, relative path spelled from Walker.walk(m, n)) = n**, on component lists
(validity of the start node `m` is not needed: `..` steps never look at the tree) -/
theorem walk_relParts (c : Ctx α) (hu : SiblingUnique c) (hn : NamesUsable c)
    (hrefl : ∀ s, cmp c.ignorecase s s = true) (m n : Addr) (hm : Valid c m) (hv : Valid c n) :
    walkPath c (relParts c m n) m = .ok n := by
  have _ := hm -- in the statement and unused
  unfold relParts
  simp only
  obtain ⟨r1, h1⟩ := Spec.lcp2_prefix_left m n
  obtain ⟨r2, h2⟩ := Spec.lcp2_prefix_right m n
  generalize lcp2 m n = k at h1 h2
  subst h1 h2
  rw [walk_append, walk_up _ _ _ (by simp)]
  have e : (k ++ r1).take ((k ++ r1).length - ((k ++ r1).length - k.length)) = k := by
    rw [List.length_append, Nat.add_sub_cancel_left, Nat.add_sub_cancel, List.take_left]
  simp only [e]
  rw [WalkerLemmas.below_append, List.map_map]
  exact walk_down c hu hn k r2 hv hrefl

/-- **get(m, absolute path of n) = n**, on component lists: after the root component, the names
below the root lead to `n` from the root, whatever the start node -/
theorem walk_absParts (c : Ctx α) (hu : SiblingUnique c) (hn : NamesUsable c)
    (hrefl : ∀ s, cmp c.ignorecase s s = true) (n : Addr) (hv : Valid c n) :
    walkPath c (namesBelow c n) [] = .ok n := by
  have := walk_down c hu hn [] n (by simpa using hv) hrefl
  simpa [namesBelow] using this

/-- `cmp` is reflexive (so the hypothesis above always holds) -/
theorem cmp_refl (ic : Bool) (s : String) : cmp ic s s = true := by
  unfold cmp; cases ic <;> simp

end Anytree.Props.C07
