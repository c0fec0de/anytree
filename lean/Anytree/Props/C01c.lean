import Anytree.Props.C01
/-!
# C01/C02 — the fuel of the mirror is never the reason for an outcome (no hook faults)

The mirror carries a fuel argument for its two recursions (the ancestor walk of `__check_loop`, the
restore re-entering the children setter) and answers `diverged` when it runs out.  Without hook
faults a fuel of `s.n + 5` always suffices: the schedule is bounded by `B = 0` (`C01.exec_onRaise`); the
specification never answers `diverged` either (`spec_ne_diverged`).  (With a *persistent* fault
the restore really recurses for ever — Python: `RecursionError`, finding K4 —
`C03.K4_persistent_preAttachChildren_diverges`.)
-/
namespace Anytree.Props.C01c

theorem spec_setChildren_ne_diverged (fl : Flavor) (s : Forest) (n : Nat) (xs : Option (List Arg)) :
    (Spec.setChildren fl s n xs).res ≠ .error .diverged := by
  unfold Spec.setChildren
  cases xs with
  | none => simp
  | some as =>
    simp only []
    cases hb : Spec.firstBad fl [] as with
    | some e =>
      rcases Spec.firstBad_range fl as [] e hb with rfl | ⟨_, rfl⟩ <;> simp
    | none => simp only []; split <;> simp

/-- the specification never answers `diverged` -/
theorem spec_ne_diverged (fl : Flavor) (s : Forest) (op : Op) :
    (Spec.run fl s op).res ≠ .error .diverged := by
  cases op with
  | setParent n v => exact Spec.setParent_ne_diverged fl s n v
  | setChildren n xs => exact spec_setChildren_ne_diverged fl s n xs
  | delChildren n => simp [Spec.run, Spec.delChildren]
  | ctor p cs =>
    simp only [Spec.run, Spec.ctor]
    have h1 := Spec.setParent_ne_diverged fl s.newNode s.n p
    cases hr : (Spec.setParent fl s.newNode s.n p).res with
    | error e => simp only []; rw [hr]; rw [hr] at h1; exact h1
    | ok u =>
      simp only []
      cases cs with
      | none => simp [hr]
      | nonIterable => simp
      | list xs =>
        cases xs with
        | nil => simp [hr]
        | cons x xs => exact spec_setChildren_ne_diverged fl _ _ _

/-- **fuel suffices**: without hook faults, on a consistent forest and with in-range arguments, a fuel
above `s.n + 4` is never exhausted -/
theorem fuel_suffices (c : Cfg) (hφ : c.φ = noFaults) (fuel : Nat) (op : Op) (s : Forest)
    (h : Inv s) (hwf : C01.WellFormed s op) (hfuel : s.n + 4 < fuel) :
    (exec c fuel op s).res ≠ .error .diverged :=
  (C01.exec_onRaise c fuel op s h hwf).ne_diverged 0 (QuietFrom.of_noFaults hφ 0) (Nat.le_of_lt hfuel)

end Anytree.Props.C01c
