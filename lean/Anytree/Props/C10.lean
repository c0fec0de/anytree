import Anytree.Lemmas.Dict
/-!
# C10 — dictionary export and import are faithful inverses of each other

Export is stated once, for all options: `exportF` yields the plain dictionary (`Spec.plainT`) of the
exported view (`Spec.viewF`: `attriter`, `childiter` and `maxlevel` applied).  With the default options the
view of a clean tree is the tree itself, and the two round trips are those of `plainT` in `Lemmas/Dict`.
-/
namespace Anytree.Props.C10
open Tree Dict Spec
open Anytree.Lemmas.Dict
variable {V : Type}

/-- a key-unique association list is its own `dict(...)` -/
theorem dictOf_unique (l : Attrs V) (h : (l.map Prod.fst).Nodup) : dictOf l = l := by
  unfold dictOf
  rw [foldl_dictSet_unique l [] (by simpa using h)]
  simp

/-- clean public attributes pass `_iter_attr_values` and `dict()` unchanged -/
theorem clean_attrs_fixed (a : Attrs V) (h : CleanAttrs a) : dictOf (iterAttrValues a) = a := by
  rw [iterAttrValues_clean a h, dictOf_unique a h.1]

/-- `childiter` only returns children it was given -/
def Selects (childiter : List (Tree (Attrs V)) → List (Tree (Attrs V))) : Prop :=
  ∀ cs, ∀ x ∈ childiter cs, x ∈ cs

/-- `exportF_eq_plain_view` with the "no `children` attribute" hypothesis restricted to a set `Q` of nodes
that contains the start node and is closed under `childiter` (e.g. `Q = CleanT` for `childiter = id`) -/
theorem exportF_eq_plain_view_of (attriter : Attrs V → Attrs V)
    (childiter : List (Tree (Attrs V)) → List (Tree (Attrs V))) (m : Option Int)
    (Q : Tree (Attrs V) → Prop)
    (hQa : ∀ a cs, Q (node a cs) → ∀ e ∈ dictOf (attriter (iterAttrValues a)), e.1 ≠ "children")
    (hQc : ∀ a cs, Q (node a cs) → ∀ c ∈ childiter cs, Q c) :
    ∀ (fuel : Nat) (level : Int) (t : Tree (Attrs V)), Q t →
      exportF attriter childiter m fuel level t = plainT (viewF attriter childiter m fuel level t) := by
  intro fuel
  induction fuel with
  | zero => intro level ⟨a, cs⟩ _; rfl
  | succ fuel ih =>
    intro level ⟨a, cs⟩ hQ
    have hmap : (childiter cs).map (exportF attriter childiter m fuel (level + 1)) =
        ((childiter cs).map (viewF attriter childiter m fuel (level + 1))).map plainT := by
      rw [List.map_map]
      exact List.map_congr_left fun c hc => ih (level + 1) c (hQc a cs hQ c hc)
    -- `if descend then (if children then .. else ..) else ..` against one `if` inside the view
    have key : ∀ (d : Attrs V) (L : List (Tree (Attrs V))) (b : Bool),
        (if b = true then if (L.map plainT).isEmpty = true then DData.mk d none
          else .mk d (some (L.map plainT)) else .mk d none) =
        .mk d (if (if b = true then L else []).isEmpty = true then none
          else some ((if b = true then L else []).map plainT)) := by
      intro d L b; cases b <;> cases L <;> rfl
    simp only [exportF, viewF, plainT_node, hmap, dictSetChildren_id _ (hQa a cs hQ)]
    exact key _ _ _

/-- **export = plain dictionary of the exported view**: `attriter` at every node, `childiter` at every
level, nodes at relative depth ≥ `maxlevel` cut, the start node always exported, `'children'` present
only when non-empty — for every fuel (the mirror's and the view's fuel are the same parameter) -/
theorem exportF_eq_plain_view (attriter : Attrs V → Attrs V)
    (childiter : List (Tree (Attrs V)) → List (Tree (Attrs V))) (m : Option Int)
    (hattr : ∀ a : Attrs V, ∀ e ∈ dictOf (attriter (iterAttrValues a)), e.1 ≠ "children") :
    ∀ (fuel : Nat) (level : Int) (t : Tree (Attrs V)),
      exportF attriter childiter m fuel level t = plainT (viewF attriter childiter m fuel level t) :=
  fun fuel level t =>
    exportF_eq_plain_view_of attriter childiter m (fun _ => True)
      (fun a _ _ => hattr a) (fun _ _ _ _ _ => trivial) fuel level t trivial

/-- with the default options and enough fuel the exported view of a clean tree is the tree itself -/
theorem view_default (t : Tree (Attrs V)) (h : CleanT t) :
    ∀ fuel level, t.height < fuel → viewF id id none fuel level t = t := by
  induction t using Tree.induction_on with
  | h a cs ih =>
    intro fuel level hf
    rw [CleanT] at h
    cases fuel with
    | zero => cases hf
    | succ fuel =>
      simp only [viewF, id, if_true]
      rw [clean_attrs_fixed a h.1]
      exact congrArg _ ((List.map_congr_left fun c hc => ih c hc (cleanL_mem h.2 c hc) fuel (level + 1)
        (Nat.lt_of_lt_of_le (Tree.height_lt_heightL hc) (Nat.le_of_lt_succ hf))).trans (List.map_id _))

/-- the start node is always exported, even for `maxlevel ≤ 1`; its children are cut then -/
theorem export_maxlevel_le_one (attriter : Attrs V → Attrs V)
    (childiter : List (Tree (Attrs V)) → List (Tree (Attrs V))) (k : Int) (hk : k ≤ 1)
    (t : Tree (Attrs V)) :
    exportD attriter childiter (some k) t = .mk (dictOf (attriter (iterAttrValues t.label))) none := by
  cases t with
  | node a cs =>
    have hd : decide ((1 : Int) < k) = false := decide_eq_false (Int.not_lt.2 hk)
    simp [exportD, exportF, hd]

theorem exportF_default (t : Tree (Attrs V)) (h : CleanT t) (fuel : Nat) (level : Int)
    (hf : t.height < fuel) : exportF id id none fuel level t = plainT t := by
  rw [exportF_eq_plain_view_of id id none CleanT _ _ fuel level t h, view_default t h fuel level hf]
  · intro a cs hc e he
    rw [CleanT] at hc
    simp only [id] at he
    rw [clean_attrs_fixed a hc.1] at he
    exact (hc.1.2 e he).1
  · intro a cs hc c hcmem
    rw [CleanT] at hc
    exact cleanL_mem hc.2 c hcmem

/-- the default export of a clean tree is its plain dictionary -/
theorem export_default (t : Tree (Attrs V)) (h : CleanT t) : exportD id id none t = plainT t :=
  exportF_default t h _ _ (Nat.lt_succ_self _)

/-- **import ∘ export = id** (AnyNode and every class that stores keywords in order): for a clean
tree, importing the default export rebuilds the same shape, child order and attributes -/
theorem import_export (t : Tree (Attrs V)) (h : CleanT t) :
    importT .anyNode (exportD id id none t) = some t := by
  rw [export_default t h]
  exact Lemmas.Dict.import_plain .anyNode t (fun _ _ => rfl)

/-- `name` is the last attribute, as `Node.__init__` stores it -/
def NameLast (a : Attrs V) : Prop := ∃ v init, a = init ++ [("name", v)] ∧ ∀ e ∈ init, e.1 ≠ "name"

mutual
def NameLastT : Tree (Attrs V) → Prop
  | node a cs => NameLast a ∧ NameLastL cs
def NameLastL : List (Tree (Attrs V)) → Prop
  | [] => True
  | c :: cs => NameLastT c ∧ NameLastL cs
end

theorem nameLastL_mem {cs : List (Tree (Attrs V))} (h : NameLastL cs) : ∀ c ∈ cs, NameLastT c := by
  induction cs with
  | nil => exact fun _ hc => nomatch hc
  | cons x xs ih =>
    rw [NameLastL] at h
    exact fun c hc => (List.mem_cons.mp hc).elim (fun e => e ▸ h.1) (ih h.2 c)

theorem nameLastT_pre (t : Tree (Attrs V)) : NameLastT t → ∀ a ∈ pre t, NameLast a := by
  induction t using Tree.induction_on with
  | h a cs ih =>
    intro hn b hb
    rw [NameLastT] at hn
    rw [pre_eq_cons] at hb
    rcases List.mem_cons.mp hb with rfl | hb
    · exact hn.1
    · obtain ⟨c, hc, hbc⟩ := List.mem_flatMap.mp hb
      exact ih c hc (nameLastL_mem hn.2 c hc) b hbc

/-- **import ∘ export = id** for `Node`, when every node's `name` is stored last -/
theorem import_export_node (t : Tree (Attrs V)) (h : CleanT t) (hn : NameLastT t) :
    importT .node (exportD id id none t) = some t := by
  rw [export_default t h]
  exact Lemmas.Dict.import_plain .node t fun a ha =>
    Lemmas.Dict.ctorAttrs_node_nameLast a (nameLastT_pre t hn a ha)

/-- **export ∘ import = id up to empty `'children'` lists**, for every clean dictionary -/
theorem export_import (d : DData V) (h : CleanD d) :
    ∃ t, importT .anyNode d = some t ∧ exportD id id none t = stripEmptyT d :=
  ⟨toTree d, Lemmas.Dict.import_anyNode_eq d, by
    rw [export_default _ (Lemmas.Dict.clean_toTree d h), Lemmas.Dict.plain_toTree]⟩

/-- import never fails for AnyNode -/
theorem import_anyNode_total (d : DData V) : (importT .anyNode d).isSome = true := by
  rw [Lemmas.Dict.import_anyNode_eq]; rfl

/-- a dictionary without a `name` key makes `Node(**attrs)` fail (TypeError) -/
theorem import_node_missing_name (a : Attrs V) (ch : Option (List (DData V)))
    (h : ∀ e ∈ a, e.1 ≠ "name") : importT .node (.mk a ch) = none := by
  have hfind : a.find? (fun e => e.1 == "name") = none := by
    rw [List.find?_eq_none]
    intro e he
    simpa using h e he
  have hc : ctorAttrs NodeCls.node a = none := by simp only [ctorAttrs, hfind]
  rw [importT, hc]

end Anytree.Props.C10
