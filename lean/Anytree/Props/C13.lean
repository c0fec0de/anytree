import Anytree.Props.C12
/-!
# C13 — Mermaid export declares exactly the admitted nodes and only edges between them

Nothing here is about Mermaid alone: `merIter` is the generator of `Lemmas/Export` at Mermaid's two line
formats (`merIter_gen`), and the default `N<k>` naming is `C12.genIter_ctr` at that format.  Unlike DOT
(finding D3) the edge pass re-checks `stop`, so the text is the demanded one without a side condition.
-/
namespace Anytree.Props.C13
open Tree Export
variable {α κ : Type}

/-- MermaidExporter with any pure name function (after the D2 fix) emits exactly the demanded text:
header, options, one node line per declared node in pre-order, one edge line per parent–child pair
whose two ends are both declared; the id map is untouched -/
theorem mermaid_lines_pure (c : MermaidCfg α κ) (nm : Tree α → String) (t : Tree α) (st : IdMap κ) :
    merIter false { c with nodename := NameFn.pure nm } t st = (Spec.merLinesS c nm t, st) := by
  -- as `C12.dot_lines_pure`; here the edge pass re-checks `stop`, which makes it `edgePairs`
  simp only [merIter_gen, genIter, namedLines_pure, namedEdges_pure, C06.preIter_spec, edgeMax_false]
  simp only [Spec.merLinesS, Spec.declared, Spec.edgePairs_eq_edgePass, List.map_flatMap, List.map_map,
    List.append_assoc, Function.comp_def]
  rfl

/-- the default `N<k>` identifiers: same lines as the pure naming read off the final map; the map
only grows and stays well-formed (distinct nodes ↦ distinct ids, stable across iterations) -/
theorem mermaid_default_eq_pure [DecidableEq κ] (c : MermaidCfg α κ) (key : Tree α → κ) (t : Tree α)
    (st : IdMap κ) :
    let r := merIter false { c with nodename := mermaidName key } t st
    r.1 = (merIter false { c with nodename := NameFn.pure (C12.finalN r.2 key) } t st).1 ∧
    (∀ k n, st.lookup k = some n → r.2.lookup k = some n) ∧
    (C12.IdMap.WF st → C12.IdMap.WF r.2) := by
  simp only [merIter_gen]
  exact (C12.genIter_ctr_pure (fun n => "N" ++ toString n) key ..).imp (congrArg (_ ++ ·)) id

def d2Tree : Tree Nat := node 0 [node 1 [], node 2 []]
def d2Cfg : MermaidCfg Nat Nat :=
  { graph := "graph", name := "TD", options := [], indent := 0,
    nodename := NameFn.pure (fun n => "n" ++ toString n.label), nodefunc := fun _ => "",
    edgefunc := fun _ _ => "-->", filter := fun _ => true, stop := fun _ => false,
    maxlevel := some 0 }

/-- before the repair of D2 the exporter with `maxlevel = 0` emitted every edge (kernel-checked witness) -/
theorem D2_witness :
    (merIter true d2Cfg d2Tree []).1 = ["graph TD", "n0-->n1", "n0-->n2"] ∧
    (merIter false d2Cfg d2Tree []).1 = ["graph TD"] :=
  ⟨rfl, rfl⟩

end Anytree.Props.C13
