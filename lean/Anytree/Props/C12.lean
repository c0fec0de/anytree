import Anytree.Lemmas.Export
/-!
# C12 — DOT export declares exactly the admitted nodes and only edges between them

Also here, shared with C13 and C13b: the id map behind the default names (`IdMap.WF`, `get_*`,
`lookup_*`), the first-use counter naming `ctrName` and its reading `finalName`, the map as a fold over
the names asked for (`visit`), and `genIter_ctr`: the counter is unobservable apart from the names.
-/
namespace Anytree.Props.C12
open Export Spec
variable {α κ : Type}

/-- DotExporter with any pure name function (after the D2 fix): header, options, one node statement
per declared node in pre-order, the edge set of finding D3, closing brace; the id map is untouched -/
theorem dot_lines_pure (c : DotCfg α κ) (nm : Tree α → String) (t : Tree α) (st : IdMap κ) :
    dotIter false { c with nodename := NameFn.pure nm } t st = (Spec.dotLinesD3 c nm t, st) := by
  -- the generator under a pure naming maps the two line formats over its two traversals, and these are
  -- the declared nodes, at `maxlevel` and (edge pass) one lower
  simp only [dotIter_gen, genIter, namedLines_pure, namedEdges_pure, C06.preIter_spec, edgeMax_false]
  simp only [dotLinesD3, declared, edgePairsNoStopRecheck, List.map_flatMap, List.map_map,
    List.append_assoc, Function.comp_def]
  rfl

/-- the emitted edge set differs from the demanded one exactly by children that satisfy `stop` -/
theorem edgePairs_eq_filter (F S : Tree α → Bool) (m : Option Int) (t : Tree α) :
    Spec.edgePairs F S m t = (Spec.edgePairsNoStopRecheck F S m t).filter (fun pc => !S pc.2) := by
  rw [edgePairs_eq_edgePass, edgePairsNoStopRecheck, List.filter_flatMap]
  congr 1
  funext p
  rw [List.filter_map, List.filter_filter]
  congr 2
  funext c
  simp [Bool.and_comm]

/-- without a `stop` function the edge pass is the demanded one, so the DOT text is exactly what the
property demands -/
theorem dot_lines_full (c : DotCfg α κ) (nm : Tree α → String) (t : Tree α) (st : IdMap κ)
    (hS : ∀ x, c.stop x = false) :
    (dotIter false { c with nodename := NameFn.pure nm } t st).1 = Spec.dotLinesS c nm t := by
  rw [dot_lines_pure]
  have h : Spec.edgePairs c.filter c.stop c.maxlevel t =
      Spec.edgePairsNoStopRecheck c.filter c.stop c.maxlevel t := by
    rw [edgePairs_eq_filter]
    simp [hS]
  simp only [dotLinesS, dotLinesD3, h]

/-- every emitted edge starts at a declared node -/
theorem edge_parents_declared (F S : Tree α → Bool) (m : Option Int) (t : Tree α) :
    ∀ pc ∈ Spec.edgePairsNoStopRecheck F S m t, pc.1 ∈ Spec.declared F S m t := by
  intro pc hpc
  simp only [edgePairsNoStopRecheck, List.mem_flatMap, List.mem_map] at hpc
  obtain ⟨p, hp, c, _, rfl⟩ := hpc
  exact preSpec_lower_subset F S m t p hp

/-- no demanded edge (between an admitted node and an admitted child) is missing among the emitted ones -/
theorem no_admitted_link_missing (F S : Tree α → Bool) (m : Option Int) (t : Tree α) :
    ∀ pc ∈ Spec.edgePairs F S m t, pc ∈ Spec.edgePairsNoStopRecheck F S m t := by
  intro pc hpc
  rw [edgePairs_eq_filter, List.mem_filter] at hpc
  exact hpc.1

/-- both ends of a demanded edge are declared -/
theorem edge_ends_declared (F S : Tree α → Bool) (m : Option Int) (t : Tree α) :
    ∀ pc ∈ Spec.edgePairs F S m t, pc.1 ∈ Spec.declared F S m t ∧ pc.2 ∈ Spec.declared F S m t := by
  intro pc hpc
  unfold edgePairs admittedNodes at hpc
  unfold declared preSpec
  cases hA : admitT S m t with
  | none => rw [hA] at hpc; simp at hpc
  | some A =>
    rw [hA] at hpc
    simp only [List.mem_flatMap] at hpc
    obtain ⟨P, hP, hpc⟩ := hpc
    by_cases hF : F P.label = true
    · simp only [hF, if_true, List.mem_map, List.mem_filter] at hpc
      obtain ⟨C, ⟨hC, hFC⟩, rfl⟩ := hpc
      have := mem_pre_decorate A P hP
      simp only [optPre, List.mem_filter]
      exact ⟨⟨this.1, hF⟩, ⟨this.2 C hC, hFC⟩⟩
    · simp [hF] at hpc

/-- escaping loses nothing: dropping the inserted backslashes gives the name back, so names that differ
still differ in the DOT text (`esc_injective`) -/
theorem unesc_esc (cs : List Char) : Spec.unescChars (escChars cs) = cs := by
  induction cs with
  | nil => rfl
  | cons c cs ih =>
    by_cases h : c = '"' ∨ c = '\\'
    · simp only [escChars, h, if_true, unescChars, ih]
    · simp only [escChars, h, if_false]
      have hc : c ≠ '\\' := fun e => h (Or.inr e)
      rw [unescChars, ih]
      · intro c' cs' e _
        exact hc e

theorem esc_injective (a b : List Char) (h : escChars a = escChars b) : a = b := by
  rw [← unesc_esc a, h, unesc_esc]

/-- well-formed id map: numbers are `0 … size-1` in order of first use, keys pairwise distinct -/
def IdMap.WF [DecidableEq κ] (st : IdMap κ) : Prop :=
  st.map Prod.snd = List.range st.length ∧ (st.map Prod.fst).Nodup

theorem lookup_none [DecidableEq κ] (st : IdMap κ) (k : κ) (h : st.lookup k = none) :
    ∀ e ∈ st, e.1 ≠ k := by
  unfold IdMap.lookup at h
  rw [Option.map_eq_none_iff, List.find?_eq_none] at h
  intro e he
  simpa using h e he

theorem lookup_some [DecidableEq κ] (st : IdMap κ) (k : κ) (n : Nat) (h : st.lookup k = some n) :
    (k, n) ∈ st := by
  unfold IdMap.lookup at h
  rw [Option.map_eq_some_iff] at h
  obtain ⟨e, he, rfl⟩ := h
  have h1 := List.mem_of_find?_eq_some he
  have h2 := List.find?_some he
  simp only [decide_eq_true_eq] at h2
  subst h2
  exact h1

theorem get_none [DecidableEq κ] (st : IdMap κ) (k : κ) (h : st.lookup k = none) :
    st.get k = (st.length, st ++ [(k, st.length)]) := by
  unfold IdMap.get; rw [h]

theorem get_some [DecidableEq κ] (st : IdMap κ) (k : κ) (n : Nat) (h : st.lookup k = some n) :
    st.get k = (n, st) := by
  unfold IdMap.get; rw [h]

/-- asking for a name keeps the id map well-formed -/
theorem get_wf [DecidableEq κ] (st : IdMap κ) (k : κ) (h : IdMap.WF st) : IdMap.WF (st.get k).2 := by
  cases hl : st.lookup k with
  | some n => rw [get_some st k n hl]; exact h
  | none =>
    rw [get_none st k hl]
    refine ⟨?_, ?_⟩
    · rw [List.map_append, h.1, List.length_append]; exact List.range_succ.symm
    · rw [List.map_append, List.nodup_append]
      refine ⟨h.2, List.pairwise_singleton _ _, fun a ha b hb e => ?_⟩
      obtain ⟨x, hx, rfl⟩ := List.mem_map.mp ha
      exact lookup_none st k hl x hx (e.trans (List.mem_singleton.mp hb))

theorem lookup_snoc [DecidableEq κ] (st : IdMap κ) (k' k : κ) (m : Nat) :
    IdMap.lookup (st ++ [(k', m)]) k = (st.lookup k).or (if k' = k then some m else none) := by
  simp only [IdMap.lookup, List.find?_append, Option.map_or, List.find?_singleton, decide_eq_true_eq,
    apply_ite (Option.map Prod.snd), Option.map_some, Option.map_none]

/-- a number once given is kept for ever -/
theorem get_stable [DecidableEq κ] (st : IdMap κ) (k k' : κ) (n : Nat) (h : st.lookup k' = some n) :
    (st.get k).2.lookup k' = some n := by
  cases hl : st.lookup k with
  | some n' => rw [get_some st k n' hl]; exact h
  | none => rw [get_none st k hl, lookup_snoc, h, Option.some_or]

/-- the number handed out is the number recorded -/
theorem get_lookup [DecidableEq κ] (st : IdMap κ) (k : κ) :
    (st.get k).2.lookup k = some (st.get k).1 := by
  cases hl : st.lookup k with
  | some n' => rw [get_some st k n' hl]; exact hl
  | none => rw [get_none st k hl, lookup_snoc, hl, if_pos rfl, Option.none_or]

/-- distinct nodes get distinct numbers -/
theorem lookup_injective [DecidableEq κ] (st : IdMap κ) (h : IdMap.WF st) (k k' : κ) (n : Nat)
    (h1 : st.lookup k = some n) (h2 : st.lookup k' = some n) : k = k' := by
  -- the entry numbered `n` sits at position `n`
  have at_num : ∀ e ∈ st, st[e.2]? = some e := by
    intro e he
    obtain ⟨i, hi, rfl⟩ := List.getElem_of_mem he
    have : (st.map Prod.snd)[i]'(by rw [List.length_map]; exact hi) = i := by
      simp only [h.1, List.getElem_range]
    rw [List.getElem_map] at this
    rw [this, List.getElem?_eq_getElem hi]
  have := (at_num (k, n) (lookup_some st k n h1)).symm.trans (at_num (k', n) (lookup_some st k' n h2))
  exact (Prod.mk.inj (Option.some.inj this)).1

/-- the identifier of a node read off an id map, the number written by `fmt` -/
def finalName [DecidableEq κ] (fmt : Nat → String) (st : IdMap κ) (key : Tree α → κ) :
    Tree α → String :=
  fun n => fmt ((st.lookup (key n)).getD 0)

/-- `finalName` at UniqueDotExporter's format `pyHex`, by `rfl`; the end results about the two exporters
are written with `finalHex` and `finalN`, the lemmas with `finalName` -/
def finalHex [DecidableEq κ] (st : IdMap κ) (key : Tree α → κ) : Tree α → String :=
  fun n => pyHex ((st.lookup (key n)).getD 0)

/-- `finalName` at Mermaid's format `"N" ++ toString ·`, by `rfl` -/
def finalN [DecidableEq κ] (st : IdMap κ) (key : Tree α → κ) : Tree α → String :=
  fun n => "N" ++ toString ((st.lookup (key n)).getD 0)

/-- `st'` knows every identifier of `st` -/
def Extends [DecidableEq κ] (st st' : IdMap κ) : Prop :=
  ∀ k n, st.lookup k = some n → st'.lookup k = some n

theorem Extends.refl [DecidableEq κ] (st : IdMap κ) : Extends st st := fun _ _ h => h
theorem Extends.trans [DecidableEq κ] {a b c : IdMap κ} (h1 : Extends a b) (h2 : Extends b c) :
    Extends a c := fun k n h => h2 k n (h1 k n h)

/-- first-use counter naming with an arbitrary number format (`pyHex` / `"N" ++ toString`) -/
def ctrName [DecidableEq κ] (fmt : Nat → String) (key : Tree α → κ) : NameFn α κ := fun st n =>
  let r := st.get (key n); (fmt r.1, r.2)

theorem uniqueName_eq [DecidableEq κ] (key : Tree α → κ) : uniqueName key = ctrName pyHex key := rfl
theorem mermaidName_eq [DecidableEq κ] (key : Tree α → κ) :
    mermaidName key = ctrName (fun n => "N" ++ toString n) key := rfl

/-- what a threaded pass `f` must satisfy to be replaceable by the pure pass `g` reading the names
off any later map -/
def Pass [DecidableEq κ] (fmt : Nat → String) (key : Tree α → κ)
    (f : IdMap κ → List String × IdMap κ) (g : (Tree α → String) → List String) : Prop :=
  ∀ st, Extends st (f st).2 ∧ (IdMap.WF st → IdMap.WF (f st).2) ∧
    ∀ st', Extends (f st).2 st' → (f st).1 = g (finalName fmt st' key)

theorem Pass.append [DecidableEq κ] (fmt : Nat → String) (key : Tree α → κ)
    (f1 f2 : IdMap κ → List String × IdMap κ) (g1 g2 : (Tree α → String) → List String)
    (h1 : Pass fmt key f1 g1) (h2 : Pass fmt key f2 g2) :
    Pass fmt key (fun st => ((f1 st).1 ++ (f2 (f1 st).2).1, (f2 (f1 st).2).2))
      (fun nm => g1 nm ++ g2 nm) := by
  intro st
  obtain ⟨e1, w1, p1⟩ := h1 st
  obtain ⟨e2, w2, p2⟩ := h2 (f1 st).2
  refine ⟨e1.trans e2, fun hw => w2 (w1 hw), fun st' hst' => ?_⟩
  show (f1 st).1 ++ (f2 (f1 st).2).1 = _
  rw [p1 st' (e2.trans hst'), p2 st' hst']

/-- the map after asking for the names of `ns` in turn -/
def visit [DecidableEq κ] (key : Tree α → κ) (ns : List (Tree α)) (st : IdMap κ) : IdMap κ :=
  ns.foldl (fun s n => (s.get (key n)).2) st

section
variable [DecidableEq κ] (fmt : Nat → String) (key : Tree α → κ)

theorem visit_cons (n : Tree α) (ns : List (Tree α)) (st : IdMap κ) :
    visit key (n :: ns) st = visit key ns (st.get (key n)).2 := rfl

theorem ctrName_snd (st : IdMap κ) (n : Tree α) : (ctrName fmt key st n).2 = (st.get (key n)).2 := rfl

theorem visit_extends (ns : List (Tree α)) (st : IdMap κ) : Extends st (visit key ns st) := by
  induction ns generalizing st with
  | nil => exact Extends.refl st
  | cons n ns ih => exact Extends.trans (fun k m h => get_stable st (key n) k m h) (ih _)

theorem visit_wf (ns : List (Tree α)) (st : IdMap κ) (h : IdMap.WF st) :
    IdMap.WF (visit key ns st) := by
  induction ns generalizing st with
  | nil => exact h
  | cons n ns ih => exact ih _ (get_wf st (key n) h)

theorem visit_isSome {ns : List (Tree α)} {n : Tree α} (hn : n ∈ ns) (st : IdMap κ) :
    ((visit key ns st).lookup (key n)).isSome = true := by
  induction ns generalizing st with
  | nil => cases hn
  | cons x xs ih =>
    rcases List.mem_cons.mp hn with rfl | hn
    · rw [visit_cons, visit_extends key xs _ _ _ (get_lookup st (key n))]; rfl
    · exact ih hn _

theorem visit_append (ns ms : List (Tree α)) (st : IdMap κ) :
    visit key (ns ++ ms) st = visit key ms (visit key ns st) := List.foldl_append ..

theorem ctrName_final (st st' : IdMap κ) (n : Tree α) (h : Extends (st.get (key n)).2 st') :
    (ctrName fmt key st n).1 = finalName fmt st' key n := by
  simp only [finalName, h _ _ (get_lookup st (key n)), Option.getD_some]
  rfl

theorem namedLines_ctr (line : String → Tree α → String) (ns : List (Tree α)) (st : IdMap κ) :
    (namedLines (ctrName fmt key) line ns st).2 = visit key ns st ∧
    ∀ st', Extends (visit key ns st) st' →
      (namedLines (ctrName fmt key) line ns st).1 = ns.map fun n => line (finalName fmt st' key n) n := by
  induction ns generalizing st with
  | nil => exact ⟨rfl, fun _ _ => rfl⟩
  | cons n ns ih =>
    obtain ⟨e, f⟩ := ih (st.get (key n)).2
    refine ⟨e, fun st' h => ?_⟩
    simp only [namedLines, List.map_cons, ctrName_snd]
    rw [f st' h, ctrName_final fmt key st st' n ((visit_extends key ns _).trans h)]

/-- the names the edge pass asks for, in order -/
def edgeAsks (kids : Tree α → List (Tree α)) (ps : List (Tree α)) : List (Tree α) :=
  ps.flatMap fun p => p :: kids p

theorem namedEdges_ctr (kids : Tree α → List (Tree α))
    (line : String → Tree α → String → Tree α → String) (ps : List (Tree α)) (st : IdMap κ) :
    (namedEdges (ctrName fmt key) kids line ps st).2 = visit key (edgeAsks kids ps) st ∧
    ∀ st', Extends (visit key (edgeAsks kids ps) st) st' →
      (namedEdges (ctrName fmt key) kids line ps st).1 =
        ps.flatMap fun p => (kids p).map fun ch =>
          line (finalName fmt st' key p) p (finalName fmt st' key ch) ch := by
  induction ps generalizing st with
  | nil => exact ⟨rfl, fun _ _ => rfl⟩
  | cons p ps ih =>
    obtain ⟨e1, f1⟩ := namedLines_ctr fmt key (line (ctrName fmt key st p).1 p) (kids p)
      (st.get (key p)).2
    obtain ⟨e2, f2⟩ := ih (visit key (kids p) (st.get (key p)).2)
    have ea : visit key (edgeAsks kids (p :: ps)) st =
        visit key (edgeAsks kids ps) (visit key (kids p) (st.get (key p)).2) := by
      simp only [edgeAsks, List.flatMap_cons, visit_append, visit_cons]
    simp only [namedEdges, ctrName_snd, e1, ea, List.flatMap_cons]
    refine ⟨e2, fun st' h => ?_⟩
    have h1 := (visit_extends key (edgeAsks kids ps) _).trans h
    rw [f2 st' h, f1 st' h1, ctrName_final fmt key st st' p ((visit_extends key (kids p) _).trans h1)]

/-- **the counter is unobservable**, for the whole iteration of either exporter: the final map is
the fold over all names asked for, and the lines are those of the pure naming read off that map
(or any later one) -/
theorem genIter_ctr (nline : String → Tree α → String) (kids : Tree α → List (Tree α))
    (eline : String → Tree α → String → Tree α → String) (ns ps : List (Tree α)) (st : IdMap κ) :
    (genIter (ctrName fmt key) nline kids eline ns ps st).2 = visit key (ns ++ edgeAsks kids ps) st ∧
    ∀ st', Extends (visit key (ns ++ edgeAsks kids ps) st) st' →
      (genIter (ctrName fmt key) nline kids eline ns ps st).1 =
        (genIter (NameFn.pure (finalName fmt st' key)) nline kids eline ns ps st).1 := by
  obtain ⟨eN, fN⟩ := namedLines_ctr fmt key nline ns st
  obtain ⟨eE, fE⟩ := namedEdges_ctr fmt key kids eline ps (visit key ns st)
  simp only [genIter, namedLines_pure, namedEdges_pure, eN, eE, visit_append]
  exact ⟨trivial, fun st' h => by rw [fN st' ((visit_extends key _ _).trans h), fE st' h]⟩

/-- `genIter_ctr` read at the final map itself: the form in which the end results of both exporters
state it -/
theorem genIter_ctr_pure (nline : String → Tree α → String) (kids : Tree α → List (Tree α))
    (eline : String → Tree α → String → Tree α → String) (ns ps : List (Tree α)) (st : IdMap κ) :
    let r := genIter (ctrName fmt key) nline kids eline ns ps st
    r.1 = (genIter (NameFn.pure (finalName fmt r.2 key)) nline kids eline ns ps st).1 ∧
    Extends st r.2 ∧ (IdMap.WF st → IdMap.WF r.2) := by
  obtain ⟨e, f⟩ := genIter_ctr fmt key nline kids eline ns ps st
  exact ⟨f _ (e ▸ Extends.refl _), e ▸ visit_extends key _ st, e ▸ visit_wf key _ st⟩

theorem visit_isSome_edge {ns ps : List (Tree α)} {kids : Tree α → List (Tree α)} {p ch : Tree α}
    (hp : p ∈ ps) (hch : ch ∈ kids p) (st : IdMap κ) :
    ((visit key (ns ++ edgeAsks kids ps) st).lookup (key p)).isSome = true ∧
    ((visit key (ns ++ edgeAsks kids ps) st).lookup (key ch)).isSome = true := by
  have hm : ∀ x ∈ p :: kids p, x ∈ ns ++ edgeAsks kids ps := fun x hx =>
    List.mem_append_right _ (List.mem_flatMap.mpr ⟨p, hp, hx⟩)
  exact ⟨visit_isSome key (hm p (List.mem_cons_self ..)) st,
    visit_isSome key (hm ch (List.mem_cons_of_mem _ hch)) st⟩

end

/-- UniqueDotExporter's first-use counter is unobservable apart from the names it produces: one
iteration with the stateful default naming emits the same lines as the pure naming that reads every
identifier off the *final* map, and the map only grows (so a later iteration reuses every id) -/
theorem dot_unique_eq_pure [DecidableEq κ] (c : DotCfg α κ) (key : Tree α → κ) (t : Tree α)
    (st : IdMap κ) :
    let r := dotIter false { c with nodename := uniqueName key } t st
    r.1 = (dotIter false { c with nodename := NameFn.pure (finalHex r.2 key) } t st).1 ∧
    (∀ k n, st.lookup k = some n → r.2.lookup k = some n) ∧
    (IdMap.WF st → IdMap.WF r.2) := by
  simp only [dotIter_gen]
  exact (genIter_ctr_pure pyHex key ..).imp (congrArg (_ ++ · ++ _)) id

/-- finding D2: the edge pass's `maxlevel` before the repair (`maxlevel - 1 if maxlevel else None`) is
the repaired one except at `maxlevel = 0` -/
theorem edgeMax_legacy_eq (m : Option Int) (h : m ≠ some 0) : edgeMax true m = edgeMax false m := by
  cases m with
  | none => rfl
  | some k =>
    have hk : k ≠ 0 := fun e => h (by rw [e])
    simp [edgeMax, Iter.decMax, hk]

/-- finding D2 at `maxlevel = 0`: the edge pass's bound before the repair was `None`, no bound at all,
instead of `-1` -/
theorem edgeMax_legacy_zero : edgeMax true (some 0) = none ∧ edgeMax false (some 0) = some (-1) := by
  constructor <;> rfl

end Anytree.Props.C12
