import Anytree.Model.AttrClass
import Anytree.Props.C20
/-!
# C20b — class-level attributes of link subclasses (`Model/AttrClass.lean`)

The class-aware read is a conservative extension of the attribute-store model: without links of a user class it is `getattr`
(for a name that links do not keep for themselves), a link of the user class answers with its class value, and a plain link
only forwards.
-/
namespace Anytree.Props.C20b
open Attr

/-- a link of the user class answers itself -/
theorem getClassAware_user (h : Heap String) (isUser : Nat → Bool) (cv : String) (fuel i : Nat) (name : String)
    (hu : isUser i = true) : getClassAware h isUser cv (fuel + 1) i name = .value cv := by
  simp only [getClassAware, hu, if_true]

/-- a plain link forwards to its target -/
theorem getClassAware_forward (h : Heap String) (isUser : Nat → Bool) (cv : String) (fuel i t : Nat) (name : String)
    (hu : isUser i = false) (ht : (h i).target = some t) :
    getClassAware h isUser cv (fuel + 1) i name = getClassAware h isUser cv fuel t name := by
  simp only [getClassAware, hu, ht, Bool.false_eq_true, if_false]

/-- a plain node answers from its own dictionary -/
theorem getClassAware_node (h : Heap String) (isUser : Nat → Bool) (cv : String) (fuel i : Nat) (name : String)
    (hu : isUser i = false) (ht : (h i).target = none) :
    getClassAware h isUser cv (fuel + 1) i name =
      (match dictGet (h i).dict name with | some v => .value v | none => .attributeError) := by
  simp only [getClassAware, hu, ht, Bool.false_eq_true, if_false]
  cases dictGet (h i).dict name <;> rfl

/-- **conservative extension**: without links of a user class, for a name that links neither keep for themselves nor guard,
and on a heap whose links hold no such entry (links hold local names only: C20), the class-aware read is the model's `getattr` -/
theorem getClassAware_eq_getattr (h : Heap String) (cv : String) (name : String)
    (hl : Generated.symlinkGetattrLocal.contains name = false)
    (hg : Generated.symlinkGetattrGuarded.contains name = false)
    (hclean : ∀ i t, (h i).target = some t → dictGet (h i).dict name = none) :
    ∀ (fuel i : Nat), getClassAware h (fun _ => false) cv fuel i name = getattr h fuel i name := by
  intro fuel i
  induction fuel, i using Spec.resolve.induct h with
  | case1 => rfl
  | case2 n i ht =>
    simp only [getClassAware, getattr, ht, Bool.false_eq_true, if_false]
    cases dictGet (h i).dict name <;> rfl
  | case3 n i t ht ih =>
    simp only [getClassAware, getattr, ht, hclean i t ht, hl, hg, Bool.false_eq_true, if_false, ih]

/-- the answer does not depend on the fuel once it suffices -/
theorem getClassAware_fuel_mono (h : Heap String) (isUser : Nat → Bool) (cv : String) (name : String) :
    ∀ (fuel i : Nat), getClassAware h isUser cv fuel i name ≠ .diverged →
      getClassAware h isUser cv (fuel + 1) i name = getClassAware h isUser cv fuel i name := by
  intro fuel i
  fun_induction getClassAware h isUser cv fuel i name with
  | case1 => exact fun hne => absurd rfl hne
  | case2 n i name hu => exact fun _ => getClassAware_user h isUser cv _ i name hu
  | case3 n i name hu ht _ hv | case4 n i name hu ht hv =>
    exact fun _ => by rw [getClassAware_node h isUser cv _ i name (by simpa using hu) ht, hv]
  | case5 n i name hu t ht ih =>
    exact fun hne => (getClassAware_forward h isUser cv _ i t name (by simpa using hu) ht).trans (ih hne)

end Anytree.Props.C20b
