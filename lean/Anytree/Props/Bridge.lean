import Anytree.Model.Bridge
import Anytree.Lemmas.Chain
import Anytree.Lemmas.Nav
/-!
# Bridge — the unfolded tree faithfully represents the forest state below a node

The correspondence harness evaluates every read-only query on `Forest.toTree s (s.n + 1) r` (model B) of
the model-A state `s`.  This tree *is* the forest below `r`: the subtree at an address is the unfolding
of the node reached by following child indices (`Forest.nodeAt`); in an `Inv` state the driver's fuel
`s.n + 1` cuts nothing off; the zipper parent is the forest parent; every node below `r` sits at exactly
one address; the navigation attributes read through `nodeAt` are the forest's links and parent chain.
Fuel conditions are explicit in every statement, and `r` is any existing node, not only a root.
Any fuel `≥ s.n` gives the same tree (`toTree_stable`, `fuel_stable'`), and the same subtrees (`sub_toTree`).
The file declares into two namespaces: `Forest.*` for `nodeAt` and `toTree_succ`, `Props.Bridge.*` for the rest.
-/
namespace Anytree
open Tree

namespace Forest

/-- follow `s.children` by index from `r` -/
def nodeAt (s : Forest) : Nat → Addr → Option Nat
  | r, [] => some r
  | r, i :: is => ((s.children r)[i]?).bind (fun c => nodeAt s c is)

@[simp] theorem nodeAt_nil (s : Forest) (r : Nat) : s.nodeAt r [] = some r := rfl
theorem nodeAt_cons (s : Forest) (r i : Nat) (is : Addr) :
    s.nodeAt r (i :: is) = ((s.children r)[i]?).bind (fun c => s.nodeAt c is) := rfl

theorem nodeAt_singleton (s : Forest) (r i : Nat) : s.nodeAt r [i] = (s.children r)[i]? := by
  rw [nodeAt_cons]
  cases (s.children r)[i]? <;> rfl

theorem nodeAt_append (s : Forest) : ∀ (a b : Addr) (r : Nat),
    s.nodeAt r (a ++ b) = (s.nodeAt r a).bind (fun p => s.nodeAt p b) := by
  intro a
  induction a with
  | nil => intro b r; simp
  | cons i is ih =>
    intro b r
    rw [List.cons_append, nodeAt_cons, nodeAt_cons]
    cases (s.children r)[i]? with
    | none => rfl
    | some c => simp only [Option.bind_some]; exact ih b c

theorem nodeAt_concat (s : Forest) (a : Addr) (i r : Nat) :
    s.nodeAt r (a ++ [i]) = (s.nodeAt r a).bind (fun p => (s.children p)[i]?) := by
  rw [nodeAt_append]
  refine congrArg _ ?_
  funext p
  exact nodeAt_singleton s p i

theorem toTree_zero (s : Forest) (r : Nat) : s.toTree 0 r = .node r [] := rfl

theorem toTree_succ (s : Forest) (fuel r : Nat) :
    s.toTree (fuel + 1) r = .node r ((s.children r).map (s.toTree fuel)) := rfl

theorem nodeAt_child_mem {s : Forest} {r : Nat} {a : Addr} {i c : Nat}
    (hc : s.nodeAt r (a ++ [i]) = some c) :
    ∃ p, s.nodeAt r a = some p ∧ (s.children p)[i]? = some c := by
  rw [nodeAt_concat] at hc
  exact Option.bind_eq_some_iff.mp hc

end Forest
end Anytree

namespace Anytree.Props.Bridge
open Tree

/-- the label is the node, for any fuel (including `0`) -/
theorem label_toTree (s : Forest) (fuel r : Nat) : (s.toTree fuel r).label = r := by
  cases fuel <;> rfl

/-- with fuel `≥ 1` the children are the unfoldings of `s.children r`, in order -/
theorem kids_toTree (s : Forest) (fuel r : Nat) :
    (s.toTree (fuel + 1) r).kids = (s.children r).map (s.toTree fuel) := rfl

theorem kids_labels (s : Forest) (fuel r : Nat) :
    (s.toTree (fuel + 1) r).kids.map Tree.label = s.children r := by
  rw [kids_toTree, List.map_map]
  exact (List.map_congr_left fun c _ => label_toTree s fuel c).trans (List.map_id _)

/-- the subtree at an address: within the fuel, the unfolding (with the remaining fuel) of the node
reached by following child indices; beyond the fuel, nothing -/
theorem sub_toTree_if (s : Forest) (a : Addr) (fuel r : Nat) :
    Tree.sub (s.toTree fuel r) a =
      if a.length ≤ fuel then (s.nodeAt r a).map (s.toTree (fuel - a.length)) else none := by
  induction a generalizing fuel r with
  | nil => simp [Tree.sub]
  | cons i is ih =>
    cases fuel with
    | zero => simp [Forest.toTree_zero, Tree.sub]
    | succ fuel =>
      rw [Forest.toTree_succ, Forest.nodeAt_cons]
      simp only [Tree.sub, List.getElem?_map, List.length_cons, Nat.add_sub_add_right,
        Nat.add_le_add_iff_right]
      cases (s.children r)[i]? with
      | none => simp
      | some c => simpa only [Option.map_some, Option.bind_some] using ih fuel c

/-- `sub_toTree_if` within the fuel: the subtree at `a` is the unfolding, with the remaining fuel, of the
node at `a` -/
theorem sub_eq (s : Forest) (a : Addr) (fuel r : Nat) (h : a.length ≤ fuel) :
    Tree.sub (s.toTree fuel r) a = (s.nodeAt r a).map (s.toTree (fuel - a.length)) := by
  rw [sub_toTree_if, if_pos h]

theorem sub_label (s : Forest) (a : Addr) (fuel r : Nat) (h : a.length < fuel) :
    (Tree.sub (s.toTree fuel r) a).map Tree.label = s.nodeAt r a := by
  rw [sub_eq s a fuel r (Nat.le_of_lt h)]
  cases s.nodeAt r a <;> simp [label_toTree]

/-- addresses longer than the fuel leave the unfolded tree -/
theorem sub_beyond_fuel (s : Forest) (a : Addr) (fuel r : Nat) (h : fuel < a.length) :
    Tree.sub (s.toTree fuel r) a = none := by
  rw [sub_toTree_if, if_neg (Nat.not_le.2 h)]

/-- the node at the parent address is the forest parent -/
theorem parent_agrees {s : Forest} (h : Inv s) {r : Nat} {a : Addr} {i c : Nat}
    (hc : s.nodeAt r (a ++ [i]) = some c) :
    ∃ p, s.nodeAt r a = some p ∧ s.parent c = some p := by
  obtain ⟨p, hp, hi⟩ := Forest.nodeAt_child_mem hc
  exact ⟨p, hp, (h.bidir c p).2 (List.mem_of_getElem? hi)⟩

/-- conversely a forest child of the node at `a` sits at a child address of `a` -/
theorem child_exists {s : Forest} (h : Inv s) {r : Nat} {a : Addr} {p c : Nat}
    (hp : s.nodeAt r a = some p) (hc : s.parent c = some p) :
    ∃ i, s.nodeAt r (a ++ [i]) = some c := by
  obtain ⟨i, hi⟩ := List.mem_iff_getElem?.1 ((h.bidir c p).1 hc)
  exact ⟨i, by rw [Forest.nodeAt_concat, hp]; exact hi⟩

/-- the parent chain of the node at `a`, of length `|a|`, ends in `r` -/
theorem nodeAt_chain {s : Forest} (h : Inv s) {r x : Nat} {a : Addr}
    (hx : s.nodeAt r a = some x) : s.up a.length x = some r := by
  induction a generalizing r x with
  | nil => simp at hx; subst hx; rfl
  | cons i is ih =>
    rw [Forest.nodeAt_cons] at hx
    obtain ⟨c, hc, hx⟩ := Option.bind_eq_some_iff.mp hx
    have hpc : s.parent c = some r := (h.bidir c r).2 (List.mem_of_getElem? hc)
    rw [List.length_cons, Forest.up_add is.length 1 x c (ih hx)]
    simp only [Forest.up, hpc]

theorem nodeAt_lt {s : Forest} (h : Inv s) {r : Nat} (hr : r < s.n) :
    ∀ (a : Addr) (x : Nat), s.nodeAt r a = some x → x < s.n := by
  intro a
  induction a using snoc_induction with
  | h0 => intro x hx; simp at hx; subst hx; exact hr
  | h1 b i _ =>
    intro x hx
    obtain ⟨p, _, hp⟩ := parent_agrees h hx
    exact (h.lt_of_parent hp).1

theorem depth_lt {s : Forest} (h : Inv s) {r : Nat} (hr : r < s.n) {x : Nat} {a : Addr}
    (hx : s.nodeAt r a = some x) : a.length < s.n :=
  h.chain_lt (nodeAt_lt h hr a x hx) (nodeAt_chain h hx)

theorem toTree_stable (s : Forest) (k : Nat) : ∀ (fuel r : Nat),
    (∀ a x, s.nodeAt r a = some x → a.length < fuel) → s.toTree (fuel + k) r = s.toTree fuel r := by
  intro fuel
  induction fuel with
  | zero => intro r hb; exact absurd (hb [] r rfl) (by simp)
  | succ fuel ih =>
    intro r hb
    rw [Nat.add_right_comm fuel 1 k, Forest.toTree_succ, Forest.toTree_succ]
    refine congrArg _ ?_
    apply List.map_congr_left
    intro c hc
    obtain ⟨i, hi⟩ := List.mem_iff_getElem?.1 hc
    apply ih c
    intro a x hx
    have := hb (i :: a) x (by rw [Forest.nodeAt_cons, hi]; exact hx)
    simpa using this

/-- more fuel gives the same tree -/
theorem fuel_stable {s : Forest} (h : Inv s) {r : Nat} (hr : r < s.n) (k : Nat) :
    s.toTree (s.n + 1 + k) r = s.toTree (s.n + 1) r :=
  toTree_stable s k _ r (fun _ _ hx => Nat.lt_succ_of_lt (depth_lt h hr hx))

/-- … and already `s.n` is enough -/
theorem fuel_stable' {s : Forest} (h : Inv s) {r : Nat} (hr : r < s.n) (k : Nat) :
    s.toTree (s.n + k) r = s.toTree s.n r :=
  toTree_stable s k _ r (fun _ _ hx => depth_lt h hr hx)

/-- the bridge equation: in the unfolding of `r`, with any fuel `≥ s.n`, the subtree at the address of `x`
is the unfolding of `x` with the same fuel -/
theorem sub_toTree {s : Forest} (h : Inv s) {r x : Nat} (hr : r < s.n) {a : Addr}
    (hx : s.nodeAt r a = some x) {fuel : Nat} (hf : s.n ≤ fuel) :
    Tree.sub (s.toTree fuel r) a = some (s.toTree fuel x) := by
  have hl : a.length ≤ fuel := Nat.le_trans (Nat.le_of_lt (depth_lt h hr hx)) hf
  -- below `x` the remaining fuel still cuts nothing off: depths below `r` stay under `s.n`
  have hst := toTree_stable s a.length (fuel - a.length) x fun b y hy => by
    have := depth_lt h hr (show s.nodeAt r (a ++ b) = some y by rw [Forest.nodeAt_append, hx]; exact hy)
    rw [List.length_append, Nat.add_comm] at this
    exact Nat.lt_sub_of_add_lt (Nat.lt_of_lt_of_le this hf)
  rw [Nat.sub_add_cancel hl] at hst
  rw [sub_eq s a fuel r hl, hx, hst]; rfl

/-- with the driver's fuel the tree is complete: for *all* addresses -/
theorem complete {s : Forest} (h : Inv s) {r : Nat} (hr : r < s.n) (a : Addr) :
    (Tree.sub (s.toTree (s.n + 1) r) a).map Tree.label = s.nodeAt r a := by
  cases hx : s.nodeAt r a with
  | some x => rw [sub_toTree h hr hx (Nat.le_succ _)]; exact congrArg some (label_toTree ..)
  | none => rw [sub_toTree_if, hx]; split <;> rfl

/-- the node object at a valid address carries the right label and the right ordered children -/
theorem node_at {s : Forest} (h : Inv s) {r : Nat} (hr : r < s.n) {x : Nat} {a : Addr}
    (hx : s.nodeAt r a = some x) :
    ∃ t, Tree.sub (s.toTree (s.n + 1) r) a = some t ∧ t.label = x ∧
      t.kids.map Tree.label = s.children x :=
  ⟨_, sub_toTree h hr hx (Nat.le_succ _), label_toTree .., kids_labels s _ x⟩

/-- leaves of the unfolded tree are genuine leaves (no cut-off by the fuel) -/
theorem leaf_iff {s : Forest} (h : Inv s) {r : Nat} (hr : r < s.n) {x : Nat} {a : Addr}
    (hx : s.nodeAt r a = some x) :
    ∃ t, Tree.sub (s.toTree (s.n + 1) r) a = some t ∧ (t.kids = [] ↔ s.children x = []) := by
  obtain ⟨t, h1, _, h3⟩ := node_at h hr hx
  exact ⟨t, h1, by rw [← h3, List.map_eq_nil_iff]⟩

theorem exists_addr {s : Forest} (h : Inv s) {r k x : Nat} (hx : s.up k x = some r) :
    ∃ a : Addr, a.length = k ∧ s.nodeAt r a = some x := by
  fun_induction Forest.up s k x with
  | case1 x => cases hx; exact ⟨[], rfl, rfl⟩
  | case2 k x hp => cases hx
  | case3 k x p hp ih =>
    obtain ⟨a, hl, ha⟩ := ih hx
    obtain ⟨i, hi⟩ := child_exists h ha hp
    exact ⟨a ++ [i], by simp [hl], hi⟩

theorem addr_unique {s : Forest} (h : Inv s) {r x : Nat} {a b : Addr}
    (ha : s.nodeAt r a = some x) (hb : s.nodeAt r b = some x) : a = b := by
  have hl := h.up_length_unique (nodeAt_chain h ha) (nodeAt_chain h hb)
  induction a using snoc_induction generalizing b x with
  | h0 => exact (List.length_eq_zero_iff.mp hl.symm).symm
  | h1 a' i ih =>
    rcases snoc_cases b with rfl | ⟨b', j, rfl⟩
    · simp at hl
    · obtain ⟨p, hp, hi⟩ := Forest.nodeAt_child_mem ha
      obtain ⟨p', hp', hj⟩ := Forest.nodeAt_child_mem hb
      have e1 : s.parent x = some p := (h.bidir x p).2 (List.mem_of_getElem? hi)
      have e2 : s.parent x = some p' := (h.bidir x p').2 (List.mem_of_getElem? hj)
      have : p = p' := by rw [e1] at e2; exact Option.some.inj e2
      subst this
      have hab : a' = b' :=
        ih hp hp' (h.up_length_unique (nodeAt_chain h hp) (nodeAt_chain h hp'))
      subst hab
      have hij : i = j :=
        (List.getElem?_inj (List.getElem?_eq_some_iff.mp hi).1 (h.nodup p)).1 (hi.trans hj.symm)
      rw [hij]

theorem existsUnique_addr {s : Forest} (h : Inv s) {r k x : Nat} (hx : s.up k x = some r) :
    ∃ a : Addr, s.nodeAt r a = some x ∧ a.length = k ∧ ∀ b, s.nodeAt r b = some x → b = a := by
  obtain ⟨a, hl, ha⟩ := exists_addr h hx
  exact ⟨a, ha, hl, fun b hb => addr_unique h hb ha⟩

/-- the pre-order of the unfolded tree reads the nodes off the addresses -/
theorem pre_eq {s : Forest} (h : Inv s) {r : Nat} (hr : r < s.n) :
    (s.toTree (s.n + 1) r).pre = (addrs (s.toTree (s.n + 1) r)).filterMap (s.nodeAt r) := by
  rw [Tree.pre_eq_addrs]
  congr 1
  funext a
  exact complete h hr a

theorem pre_nodup {s : Forest} (h : Inv s) {r : Nat} (hr : r < s.n) :
    (s.toTree (s.n + 1) r).pre.Nodup := by
  rw [pre_eq h hr]
  refine List.Pairwise.filterMap (S := (· ≠ ·)) _ ?_ (Tree.nodup_addrs _)
  intro a a' hne x hx x' hx' hxx
  subst hxx
  exact hne (addr_unique h hx hx')

theorem mem_pre {s : Forest} (h : Inv s) {r : Nat} (hr : r < s.n) (x : Nat) :
    x ∈ (s.toTree (s.n + 1) r).pre ↔ ∃ k, s.up k x = some r := by
  rw [pre_eq h hr, List.mem_filterMap]
  constructor
  · rintro ⟨a, _, ha⟩; exact ⟨a.length, nodeAt_chain h ha⟩
  · rintro ⟨k, hk⟩
    obtain ⟨a, _, ha⟩ := exists_addr h hk
    exact ⟨a, (Tree.mem_addrs _ a).mpr (by rw [sub_toTree h hr ha (Nat.le_succ _)]; rfl), ha⟩

/-- below a root `r` every node occurs exactly once in the pre-order of the unfolded tree (`_hroot` is
not used: the same holds below any existing node) -/
theorem pre_spec {s : Forest} (h : Inv s) {r : Nat} (hr : r < s.n) (_hroot : s.parent r = none) :
    (s.toTree (s.n + 1) r).pre.Nodup ∧
      ∀ x, x ∈ (s.toTree (s.n + 1) r).pre ↔ ∃ k, s.up k x = some r :=
  ⟨pre_nodup h hr, mem_pre h hr⟩

theorem mem_roots (s : Forest) (r : Nat) : r ∈ s.roots ↔ r < s.n ∧ s.parent r = none := by
  simp [Forest.roots]

/-- the unfolded trees of `Forest.roots` partition the existing nodes -/
theorem roots_partition {s : Forest} (h : Inv s) {x : Nat} (hx : x < s.n) :
    ∃ r, r ∈ s.roots ∧ x ∈ (s.toTree (s.n + 1) r).pre ∧
      ∀ r', r' ∈ s.roots → x ∈ (s.toTree (s.n + 1) r').pre → r' = r := by
  obtain ⟨r, k, hk, hp⟩ := h.has_root x
  have hr : r < s.n := h.up_lt hx k r hk
  refine ⟨r, (mem_roots s r).2 ⟨hr, hp⟩, (mem_pre h hr x).2 ⟨k, hk⟩, ?_⟩
  intro r' hr' hm
  obtain ⟨hr'n, hp'⟩ := (mem_roots s r').1 hr'
  obtain ⟨k', hk'⟩ := (mem_pre h hr'n x).1 hm
  exact Forest.root_unique hk' hp' hk hp

theorem nodeAt_take {s : Forest} (h : Inv s) {r x : Nat} {a : Addr}
    (hx : s.nodeAt r a = some x) (k : Nat) :
    s.nodeAt r (a.take k) = s.up (a.length - k) x := by
  have hx' := hx
  rw [← List.take_append_drop k a, Forest.nodeAt_append] at hx'
  obtain ⟨p, hp, hx'⟩ := Option.bind_eq_some_iff.mp hx'
  rw [hp, ← List.length_drop]
  exact (nodeAt_chain h hx').symm

/-- `path`: the nodes on the zipper path are `r = up |a| x, …, up 1 x, up 0 x = x` -/
theorem path_nodes {s : Forest} (h : Inv s) {r x : Nat} {a : Addr} (hx : s.nodeAt r a = some x) :
    (Nav.path a).map (s.nodeAt r) =
      (List.range (a.length + 1)).map (fun k => s.up (a.length - k) x) := by
  rw [Nav.path_eq_prefixes]
  apply List.ext_getElem
  · simp [Spec.length_prefixes]
  · intro i h1 h2
    simp only [List.getElem_map, Spec.prefixes_getElem, List.getElem_range]
    exact nodeAt_take h hx i

/-- consecutive nodes on the path (`(Nav.path a)[k] = a.take k`) are related by `s.parent` -/
theorem path_step {s : Forest} (h : Inv s) {r x : Nat} {a : Addr} (hx : s.nodeAt r a = some x)
    (k : Nat) (hk : k < a.length) :
    ∃ p c, s.nodeAt r (a.take k) = some p ∧ s.nodeAt r (a.take (k + 1)) = some c ∧
      s.parent c = some p := by
  have h1 := nodeAt_take h hx (k + 1)
  obtain ⟨c, hc⟩ := Forest.up_prefix (nodeAt_chain h hx) (a.length - (k + 1)) (Nat.sub_le ..)
  rw [hc] at h1
  have h2 := h1
  rw [List.take_succ_eq_append_getElem hk] at h2
  obtain ⟨p, hp, hpc⟩ := parent_agrees h h2
  exact ⟨p, c, hp, h1, hpc⟩

theorem depth_chain {s : Forest} (h : Inv s) {r x : Nat} {a : Addr} (hx : s.nodeAt r a = some x) :
    s.up (Nav.depth a) x = some r := by
  rw [show Nav.depth a = a.length by simp [Nav.depth, Nav.length_climb]]
  exact nodeAt_chain h hx

theorem parent_attr {s : Forest} (h : Inv s) {r x : Nat} {a : Addr} (ha : a ≠ [])
    (hx : s.nodeAt r a = some x) : s.nodeAt r a.dropLast = s.parent x := by
  rcases snoc_cases a with rfl | ⟨b, i, rfl⟩
  · exact absurd rfl ha
  · obtain ⟨p, hp, hpc⟩ := parent_agrees h hx
    rw [List.dropLast_concat, hp, hpc]

theorem children_attr {s : Forest} (h : Inv s) {r : Nat} (hr : r < s.n) {x : Nat} {a : Addr}
    (hx : s.nodeAt r a = some x) :
    (Nav.childAddrs (s.toTree (s.n + 1) r) a).map (s.nodeAt r) = (s.children x).map some := by
  simp only [Nav.childAddrs, sub_toTree h hr hx (Nat.le_succ _), kids_toTree, List.length_map, List.map_map]
  apply List.ext_getElem
  · simp
  · intro i h1 h2
    simp only [List.getElem_map, List.getElem_range, Function.comp]
    rw [Forest.nodeAt_concat, hx, Option.bind_some]
    exact List.getElem?_eq_getElem _

end Anytree.Props.Bridge
