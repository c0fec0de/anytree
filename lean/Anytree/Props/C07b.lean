import Anytree.Props.C07
/-!
# C07, string level — `get(m, <path string of n>) = n` for any non-empty separator

`Props/C07.lean` proves the round trip on component lists (`walk_absParts`, `walk_relParts`).  Here
`str.split` undoes `sep.join` for *every* non-empty separator under the exact side condition
(`SepFree`; one-character separators are the instance `C07.split_join_single`), and the two round-trip
statements of the property are then stated on path *strings*.

`absPath c n` is `sep ++ sep.join` of the names on `Nav.path n` (`Nav.path_eq_prefixes`,
`prefixes_eq_cons_drop`).  A node is a valid address, so `SiblingUnique`, `NamesUsable` and `NamesSepFree`,
which range over all valid addresses, speak of all nodes of the tree.
-/
namespace Anytree.Props.C07b
open Tree Str Resolver Spec Anytree.Props.C07
variable {α : Type}

/-- the separator occurs in `p ++ sep` only at the very end (so in particular not inside `p`, and no
suffix of `p` followed by a prefix of `sep` spells `sep`) -/
def SepFree (sep p : List Char) : Prop :=
  ∀ i, i < p.length → stripPrefix sep ((p ++ sep).drop i) = none

instance (sep p : List Char) : Decidable (SepFree sep p) := by
  unfold SepFree; exact inferInstance

theorem sepFree_iff {sep p : List Char} :
    SepFree sep p ↔ ∀ i, i < p.length → ¬ sep <+: p.drop i ++ sep :=
  forall_congr' fun i => forall_congr' fun hi => by
    rw [stripPrefix_eq_none_iff, List.drop_append_of_le_length (Nat.le_of_lt hi)]

theorem SepFree.last {sep p : List Char} (h : SepFree sep p) (i : Nat) (hi : i < p.length) :
    ¬ sep <+: p.drop i ++ [] := fun hp =>
  sepFree_iff.mp h i hi ((List.append_nil _ ▸ hp).trans (List.prefix_append _ _))

theorem SepFree.mid {sep p : List Char} (h : SepFree sep p) (rest : List Char) (i : Nat)
    (hi : i < p.length) : ¬ sep <+: p.drop i ++ (sep ++ rest) := fun hp =>
  sepFree_iff.mp h i hi (List.prefix_of_prefix_length_le (List.append_assoc .. ▸ hp)
    (List.prefix_append _ _) (List.length_append ▸ Nat.le_add_left _ _))

theorem splitL_join {sep : List Char} (hsep : sep ≠ []) : ∀ (ps : List (List Char)) (p acc : List Char),
    (∀ q ∈ p :: ps, SepFree sep q) →
    splitL sep (List.intercalate sep (p :: ps)) acc = (acc.reverse ++ p) :: ps := by
  intro ps
  induction ps with
  | nil =>
    intro p acc hfree
    have := splitL_scan sep p [] acc (hfree p (List.mem_cons_self ..)).last
    rw [List.append_nil] at this
    rw [List.intercalate_singleton, this, splitL_nil, List.reverse_append, List.reverse_reverse]
  | cons q ps ih =>
    intro p acc hfree
    rw [List.intercalate_cons_cons, List.append_assoc,
      splitL_scan sep p _ acc ((hfree p (List.mem_cons_self ..)).mid _), splitL_sep hsep,
      ih q [] fun r hr => hfree r (List.mem_cons_of_mem _ hr), List.reverse_append, List.reverse_reverse]
    rfl

/-- the general inverse: Python's leftmost non-overlapping `split` undoes `join` -/
theorem split_join (sep : String) (parts : List String) (hsep : sep ≠ "") (hne : parts ≠ [])
    (hfree : ∀ p ∈ parts, SepFree sep.toList p.toList) :
    split sep (sep.intercalate parts) = parts := by
  cases parts with
  | nil => exact absurd rfl hne
  | cons p ps =>
    rw [split_eq_splitL, String.toList_intercalate, List.map_cons,
      splitL_join (toList_ne_nil hsep) _ _ [] (List.forall_mem_map (l := p :: ps) |>.2 hfree)]
    simp [Function.comp_def]

/-- sufficient: the first character of the separator does not occur in the component -/
theorem sepFree_of_head_notin (c : Char) (cs p : List Char) (h : c ∉ p) : SepFree (c :: cs) p := by
  intro i hi
  have : c ≠ p[i] := by intro e; apply h; rw [e]; exact List.getElem_mem hi
  rw [List.drop_append_of_le_length (Nat.le_of_lt hi), List.drop_eq_getElem_cons hi]
  simp only [List.cons_append, stripPrefix, this, if_false]

/-- splitting a joined path gives the components back, for a single-character separator that
occurs in no component (declared into namespace `C07`: it is audited under that name) -/
theorem _root_.Anytree.Props.C07.split_join_single (sepc : Char) (parts : List String) (hne : parts ≠ [])
    (hfree : ∀ p ∈ parts, sepc ∉ p.toList) :
    split (String.singleton sepc) ((String.singleton sepc).intercalate parts) = parts :=
  split_join _ parts (by simp [String.singleton_ne_empty]) hne fun p hp => by
    rw [String.toList_singleton]; exact sepFree_of_head_notin sepc [] _ (hfree p hp)

/-- if the first piece found is `acc.reverse ++ p`, the separator starts nowhere inside `p` -/
theorem splitL_head {sep : List Char} (hsep : sep ≠ []) : ∀ (p t acc : List Char),
    (splitL sep (p ++ t) acc).head? = some (acc.reverse ++ p) →
    ∀ i, i < p.length → ¬ sep <+: p.drop i ++ t := by
  intro p
  induction p with
  | nil => intro _ _ _ i hi; cases hi
  | cons x xs ih =>
    intro t acc h i hi
    cases hs : stripPrefix sep (x :: (xs ++ t)) with
    | some rest =>
      -- the first piece would end here
      rw [List.cons_append, stripPrefix_eq_some hs, splitL_sep hsep, List.head?_cons] at h
      have := congrArg List.length (Option.some.inj h)
      simp at this
    | none =>
      cases i with
      | zero => exact stripPrefix_eq_none_iff.mp hs
      | succ j =>
        rw [List.cons_append, splitL_cons hs] at h
        exact ih t (x :: acc) (by simpa using h) j (Nat.lt_of_succ_lt_succ hi)

/-- `SepFree` is also necessary for a two-component join to split back (so the condition is exact) -/
theorem sepFree_necessary (sep p q : String) (hsep : sep ≠ "")
    (h : split sep (sep.intercalate [p, q]) = [p, q]) : SepFree sep.toList p.toList := by
  rw [split_eq_splitL, String.toList_intercalate] at h
  simp only [List.map_cons, List.map_nil, List.intercalate_cons_cons, List.intercalate_singleton,
    List.append_assoc] at h
  have hh := congrArg List.head? h
  rw [List.head?_map, List.head?_cons] at hh
  cases hx : (splitL sep.toList (p.toList ++ (sep.toList ++ q.toList)) []).head? with
  | none => rw [hx] at hh; cases hh
  | some x =>
    rw [hx, Option.map_some, Option.some.injEq] at hh
    have hxp : x = p.toList := by rw [← hh, String.toList_ofList]
    rw [hxp] at hx
    have key := splitL_head (toList_ne_nil hsep) p.toList _ [] hx
    exact sepFree_iff.mpr fun i hi hp =>
      key i hi (List.append_assoc .. ▸ hp.trans (List.prefix_append _ _))

/-- the absolute path string of `n`: separator, then the names from the root joined by it -/
def absPath (c : Ctx α) (n : Addr) : String :=
  c.sep ++ c.sep.intercalate (c.name [] :: namesBelow c n)

def NamesSepFree (c : Ctx α) : Prop := ∀ a, Valid c a → SepFree c.sep.toList (c.name a).toList

theorem mem_below_names (c : Ctx α) (k r : Addr) (hv : Valid c (k ++ r)) (q : String)
    (hq : q ∈ (below k (k ++ r)).map c.name) : ∃ a, Valid c a ∧ a ≠ [] ∧ q = c.name a := by
  obtain ⟨p, hp, rfl⟩ := List.mem_map.mp hq
  obtain ⟨j, hj, hjl, rfl⟩ := WalkerLemmas.mem_below hp
  refine ⟨_, Valid.prefix (b := (k ++ r).drop j) ((List.take_append_drop ..).symm ▸ hv), fun h => ?_, rfl⟩
  have := congrArg List.length h
  rw [List.length_take, Nat.min_eq_left hjl] at this
  exact absurd (this ▸ hj) (Nat.not_lt_zero _)

theorem mem_namesBelow (c : Ctx α) (n : Addr) (hv : Valid c n) (q : String)
    (hq : q ∈ namesBelow c n) : ∃ a, Valid c a ∧ a ≠ [] ∧ q = c.name a := by
  have := mem_below_names c [] n (by simpa using hv) q
  simp only [below, List.nil_append, List.length_nil, Nat.zero_add] at this
  exact this hq

/-- **get(m, absolute path string of n) = n** -/
theorem get_absPath (c : Ctx α) (hsep : c.sep ≠ "") (hu : SiblingUnique c) (hn : NamesUsable c)
    (hf : NamesSepFree c) (hroot : c.name [] ≠ "") (m n : Addr) (hv : Valid c n) :
    Resolver.get c m (absPath c n) = .ok (some n) := by
  have hpath : absPath c n = c.sep.intercalate ("" :: c.name [] :: namesBelow c n) := by
    apply String.toList_injective
    simp [absPath, String.toList_intercalate]
  have hsplit : split c.sep (absPath c n) = "" :: c.name [] :: namesBelow c n := by
    rw [hpath]
    apply split_join _ _ hsep (by simp)
    intro p hp
    simp only [List.mem_cons] at hp
    rcases hp with rfl | rfl | hp
    · exact fun i hi => absurd hi (Nat.not_lt_zero i)
    · exact hf [] rfl
    · obtain ⟨a, ha, _, rfl⟩ := mem_namesBelow c n hv p hp
      exact hf a ha
  have hstart : startsWith (absPath c n) c.sep = true := by
    unfold startsWith absPath
    rw [String.toList_append, stripPrefix_append]; rfl
  rw [get_eq_spec c hsep]
  unfold getS getStrictS
  have h0 : (c.name [] == "") = false := by simpa using hroot
  simp only [hstart, hsplit, if_true, List.drop_succ_cons, List.drop_zero, h0, cmp_refl,
    Bool.not_true, Bool.false_eq_true, if_false, walk_absParts c hu hn (cmp_refl _) n hv]

theorem mem_relParts (c : Ctx α) (m n : Addr) (hv : Valid c n) (q : String)
    (hq : q ∈ relParts c m n) : q = ".." ∨ ∃ a, Valid c a ∧ a ≠ [] ∧ q = c.name a := by
  unfold relParts at hq
  simp only [List.mem_append] at hq
  rcases hq with hq | hq
  · left; exact (List.mem_replicate.mp hq).2
  · right
    obtain ⟨r2, h2⟩ := Spec.lcp2_prefix_right m n
    generalize lcp2 m n = k at hq h2
    subst h2
    exact mem_below_names c k r2 hv q hq

theorem not_startsWith_join (sep p0 : String) (ps : List String)
    (hfree : SepFree sep.toList p0.toList) (hne : p0 ≠ "") :
    startsWith (sep.intercalate (p0 :: ps)) sep = false := by
  have hpos : 0 < p0.toList.length := by
    cases h : p0.toList with
    | nil => exact absurd (String.toList_eq_nil_iff.mp h) hne
    | cons _ _ => simp
  unfold startsWith
  rw [String.toList_intercalate, List.map_cons]
  cases ps with
  | nil =>
    have : stripPrefix sep.toList p0.toList = none :=
      stripPrefix_eq_none_iff.mpr (List.append_nil p0.toList ▸ hfree.last 0 hpos)
    rw [List.map_nil, List.intercalate_singleton, this]; rfl
  | cons q qs =>
    have := stripPrefix_eq_none_iff.mpr (hfree.mid (List.intercalate sep.toList ((q :: qs).map String.toList)) 0 hpos)
    rw [List.drop_zero, List.map_cons] at this
    rw [List.map_cons, List.intercalate_cons_cons, List.append_assoc, this]; rfl

/-- **get(m, relative path string spelled from Walker.walk(m, n)) = n** -/
theorem get_relPath (c : Ctx α) (hsep : c.sep ≠ "") (hu : SiblingUnique c) (hn : NamesUsable c)
    (hf : NamesSepFree c) (hdots : SepFree c.sep.toList "..".toList)
    (m n : Addr) (hm : Valid c m) (hv : Valid c n) :
    Resolver.get c m (c.sep.intercalate (relParts c m n)) = .ok (some n) := by
  have hwalk := walk_relParts c hu hn (cmp_refl _) m n hm hv
  have hmem := mem_relParts c m n hv
  rw [get_eq_spec c hsep]
  unfold getS getStrictS
  cases hr : relParts c m n with
  | nil =>
    rw [hr] at hwalk
    simp only [walkPath, Except.ok.injEq] at hwalk
    subst hwalk
    have hstart : startsWith "" c.sep = false := by
      unfold startsWith
      cases h : c.sep.toList with
      | nil => exact absurd h (toList_ne_nil hsep)
      | cons _ _ => rfl
    have hsplit : split c.sep "" = [""] := by simp [split, splitAux]
    simp [hstart, hsplit, walkPath, stepS]
  | cons p0 ps =>
    rw [hr] at hwalk hmem
    have hfree : ∀ q ∈ p0 :: ps, SepFree c.sep.toList q.toList ∧ q ≠ "" := by
      intro q hq
      rcases hmem q hq with rfl | ⟨a, ha, hane, rfl⟩
      · exact ⟨hdots, by decide⟩
      · exact ⟨hf a ha, (hn a ha hane).1⟩
    have hsplit := split_join c.sep (p0 :: ps) hsep (by simp) (fun q hq => (hfree q hq).1)
    have hstart := not_startsWith_join c.sep p0 ps (hfree p0 (by simp)).1 (hfree p0 (by simp)).2
    simp only [hstart, hsplit, Bool.false_eq_true, if_false, hwalk]

/-! The hypotheses are met by a tree with the two-character separator `::`.  `"b:c"` contains a
separator character but is `SepFree`; `"b:"` is not (joined with `::` it reads `b:::`, where the
leftmost match starts inside the component). -/

example : SepFree "::".toList "ab".toList := by decide
example : SepFree "::".toList "b:c".toList := by decide
example : ¬ SepFree "::".toList "b:".toList := by decide
example : SepFree "::".toList "..".toList := by decide

example : split "::" ("::".intercalate ["a", "b:c", "d"]) = ["a", "b:c", "d"] :=
  split_join "::" ["a", "b:c", "d"] (by decide) (by simp) (by decide)

example : "::".intercalate ["a", "b:c", "d"] = "a::b:c::d" := by decide

def exTree : Tree String := .node "root" [.node "a" [.node "b:c" []], .node "d" []]

def exCtx : Ctx String := ⟨exTree, id, "::", false, false⟩

theorem ex_unique : SiblingUnique exCtx := (siblingUnique_iff _).mpr (by decide)

theorem ex_usable : NamesUsable exCtx := (forall_valid_iff _ _).mpr (by decide)

theorem ex_sepFree : NamesSepFree exCtx := (forall_valid_iff _ _).mpr (by decide)

example : Resolver.get exCtx [1] (absPath exCtx [0, 0]) = .ok (some [0, 0]) :=
  get_absPath exCtx (by decide) ex_unique ex_usable ex_sepFree (by decide) [1] [0, 0]
    (by unfold Valid; decide)
example : absPath exCtx [0, 0] = "::root::a::b:c" := by decide

example : Resolver.get exCtx [1] ("::".intercalate (relParts exCtx [1] [0, 0])) = .ok (some [0, 0]) :=
  get_relPath exCtx (by decide) ex_unique ex_usable ex_sepFree (by decide) [1] [0, 0]
    (by unfold Valid; decide) (by unfold Valid; decide)
example : "::".intercalate (relParts exCtx [1] [0, 0]) = "..::a::b:c" := by decide

end Anytree.Props.C07b
