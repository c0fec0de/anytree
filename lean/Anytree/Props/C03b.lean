import Anytree.Props.C03
import Anytree.Lemmas.Restore
/-!
# C03 — the attach phase of a children assignment

C03, attach phase of `n.children = xs`: the `try` block of the children setter is vetoed once; the `except`
branch (`self.children = old_children; raise`) runs without further faults and puts every link back.
A1: the setter's own `_pre_attach_children` invocation (number `2·|old children| + 2`) raises; the position
cannot be dropped (`A1_position_needed`: the same exception can come out of the restore after a
`LoopError`, finding K3, with damaged links).  A2: the failure happens at an element of the attach loop,
and every element attached before it was parentless or already a child of `n` (the complement of K3).
-/
namespace Anytree.Props.C03

/-- exactly the `i0`-th hook invocation of the call raises -/
def oneShot (i0 : Nat) : Faults := fun i _ _ => i == i0

theorem oneShot_spec (c : Cfg) (i0 : Nat) (hφ : c.φ = oneShot i0) :
    Quiet c 0 i0 ∧ (∀ k m, c.φ i0 k m = true) ∧ ∀ i k m, i0 < i → c.φ i k m = false := by
  obtain ⟨_, _, φ⟩ := c
  cases hφ
  exact ⟨fun i _ _ _ hlt => beq_eq_false_iff_ne.2 (Nat.ne_of_lt hlt), fun _ _ => beq_self_eq_true i0,
    fun i _ _ hlt => beq_eq_false_iff_ne.2 (Nat.ne_of_gt hlt)⟩

/-- **A1, general schedule.**  No hook of the delete phase raises, the setter's own
`_pre_attach_children` invocation (number `2·|old children| + 2`) raises, no later invocation raises:
the call raises that exception and the forest is exactly the one before the call. -/
theorem C03_attach_phase_preAttachChildren_gen (c : Cfg) (fuel n : Nat) (xs : List Nat) (s : Forest)
    (h : Inv s) (hn : n < s.n) (hfuel : s.n + 3 < fuel) (hnd : xs.Nodup) (i0 : Nat)
    (hi0 : i0 = 2 * (s.children n).length + 2)
    (hbefore : Quiet c 0 i0) (hat : c.φ i0 .preAttachChildren n = true)
    (hafter : ∀ i k m, i0 < i → c.φ i k m = false) :
    (exec c fuel (.setChildren n (some (xs.map Arg.node))) s).res =
      .error (.hook i0 .preAttachChildren n) ∧
    (exec c fuel (.setChildren n (some (xs.map Arg.node))) s).f = s := by
  obtain ⟨f', rfl⟩ := Nat.exists_eq_add_one.2 (Nat.zero_lt_of_lt hfuel)
  rw [(exec_setChildren_nodes c _ n hnd s).1, (exec_setChildren_nodes c _ n hnd s).2]
  exact setChildrenNodes_preAttachChildren_veto f' n xs ⟨s, [], 0⟩ h (Nat.lt_of_succ_lt_succ hfuel) hn i0
    (by rw [Spec.delChildren_log_length h n, hi0, Nat.zero_add]) hbefore hat hafter

/-- **A1.**  Exactly one hook invocation raises, and it is the setter's own `_pre_attach_children`
(invocation number `2·|old children| + 2`): the call raises that exception and the forest is
exactly the one before the call. -/
theorem C03_attach_phase_preAttachChildren (c : Cfg) (fuel n : Nat) (xs : List Nat) (s : Forest)
    (h : Inv s) (hn : n < s.n) (hfuel : s.n + 3 < fuel) (hnd : xs.Nodup) (i0 : Nat)
    (hi0 : i0 = 2 * (s.children n).length + 2) (hφ : c.φ = oneShot i0) :
    (exec c fuel (.setChildren n (some (xs.map Arg.node))) s).res =
      .error (.hook i0 .preAttachChildren n) ∧
    (exec c fuel (.setChildren n (some (xs.map Arg.node))) s).f = s :=
  have ⟨hb, ha, hf⟩ := oneShot_spec c i0 hφ
  C03_attach_phase_preAttachChildren_gen c fuel n xs s h hn hfuel hnd i0 hi0 hb (ha _ _) hf

/-- **A1 for an arbitrary tuple of nodes**: under the one-shot schedule at the position of the setter's own
`_pre_attach_children` the forest after the call is the one before it (a tuple with a duplicate is
refused before anything is touched).  The hypothesis `_he`, that the call raises that exception, is in
the statement and is not used. -/
theorem C03_attach_phase_preAttachChildren' (c : Cfg) (fuel n : Nat) (xs : List Nat) (s : Forest)
    (h : Inv s) (hn : n < s.n) (hfuel : s.n + 3 < fuel) (i0 : Nat)
    (hi0 : i0 = 2 * (s.children n).length + 2) (hφ : c.φ = oneShot i0)
    (_he : (exec c fuel (.setChildren n (some (xs.map Arg.node))) s).res =
      .error (.hook i0 .preAttachChildren n)) :
    (exec c fuel (.setChildren n (some (xs.map Arg.node))) s).f = s := by
  cases hc : checkChildren c.fl [] (xs.map Arg.node) with
  | error e =>
    exact (C03_partial_setChildren_checks c fuel n _ s (Or.inr ⟨_, e, rfl, hc⟩)).1
  | ok u =>
    cases u
    have hnd : xs.Nodup := by
      have := ((checkChildren_ok_iff _ _).1 hc).1
      rwa [argsToNodes_nodes] at this
    exact (C03_attach_phase_preAttachChildren c fuel n xs s h hn hfuel hnd i0 hi0 hφ).2

/-- the position hypothesis of A1 is needed: on `0 → [1]`, `3 → [2]`, the call `1.children = [2, 0]`
with the 12th invocation raising ends with the exception of a `_pre_attach_children` hook of node 1
— raised inside the restore that follows the `LoopError` (K3) — and `2` has changed parents -/
theorem A1_position_needed :
    errOf (exec ⟨.nm, false, oneShot 11⟩ 64 opK3 sK3).res = some (.hook 11 .preAttachChildren 1) ∧
    (exec ⟨.nm, false, oneShot 11⟩ 64 opK3 sK3).f.snap =
      [(none, [1]), (some 0, [2]), (some 1, []), (none, [])] ∧
    sK3.snap = [(none, [1]), (some 0, []), (some 3, []), (none, [2])] := by decide +kernel

/-- A2 for either first hook of the element `x` (`k`, with the condition `hk` under which it is the first):
the elements before `x` were parentless or children of `n` (¬K3), exactly the invocation `i0` raises -/
theorem attach_phase_elem_veto (c : Cfg) (fuel n : Nat) (pre : List Nat) (x : Nat)
    (post : List Nat) (s : Forest) (h : Inv s) (hn : n < s.n) (hfuel : s.n + 3 < fuel)
    (hnd : (pre ++ x :: post).Nodup) (hlt : ∀ y ∈ pre, y < s.n)
    (hpar : ∀ y ∈ pre, s.parent y = none ∨ s.parent y = some n)
    (hatt : ∀ y ∈ pre, y ≠ n ∧ Spec.isAnc s y n = false)
    (hxatt : x ≠ n ∧ Spec.isAnc s x n = false) (k : HookKind)
    (hk : ((s.parent x = none ∨ s.parent x = some n) ∧ k = .preAttach) ∨
      ((∃ q, s.parent x = some q ∧ q ≠ n) ∧ k = .preDetach))
    (i0 : Nat) (hi0 : i0 = 2 * (s.children n).length + 3 + 2 * pre.length)
    (hφ : c.φ = oneShot i0) :
    (exec c fuel (.setChildren n (some ((pre ++ x :: post).map Arg.node))) s).res =
      .error (.hook i0 k x) ∧
    (exec c fuel (.setChildren n (some ((pre ++ x :: post).map Arg.node))) s).f = s := by
  obtain ⟨hb, ha, hf⟩ := oneShot_spec c i0 hφ
  obtain ⟨f', rfl⟩ := Nat.exists_eq_add_one.2 (Nat.zero_lt_of_lt hfuel)
  have hnd' := List.nodup_append.mp hnd
  rw [(exec_setChildren_nodes c _ n hnd s).1, (exec_setChildren_nodes c _ n hnd s).2]
  have L : Spec.Legal s n pre := ⟨h, hn, hnd'.1, hlt, hatt⟩
  exact (setChildrenNodes_elem_veto f' x post ⟨s, [], 0⟩ L (Nat.lt_of_succ_lt_succ hfuel)
    (fun hm => hnd'.2.2 x hm x List.mem_cons_self rfl) hxatt k hk i0
    (by rw [loopWorld_cnt (w := ⟨s, [], 0⟩) h n _ pre hnd'.1 hpar, hi0]; simp)
    hb (ha _ _) hf).imp_right (·.trans (Spec.restored_eq_self L hpar c.fl))

/-- **A2, `_pre_attach`.**  `xs = pre ++ x :: post`; `x` and the elements before it were parentless
or children of `n` (¬K3) and may become children of `n`; exactly one hook invocation raises: the
`_pre_attach` of `x` in the attach loop (invocation number `2·|old| + 3 + 2·|pre|`).  The call raises
that exception and the forest is exactly the one before the call. -/
theorem C03_attach_phase_preAttach (c : Cfg) (fuel n : Nat) (pre : List Nat) (x : Nat)
    (post : List Nat) (s : Forest) (h : Inv s) (hn : n < s.n) (hfuel : s.n + 3 < fuel)
    (hnd : (pre ++ x :: post).Nodup) (hlt : ∀ y ∈ pre ++ [x], y < s.n)
    (hpar : ∀ y ∈ pre ++ [x], s.parent y = none ∨ s.parent y = some n)
    (hatt : ∀ y ∈ pre ++ [x], y ≠ n ∧ Spec.isAnc s y n = false) (i0 : Nat)
    (hi0 : i0 = 2 * (s.children n).length + 3 + 2 * pre.length) (hφ : c.φ = oneShot i0) :
    (exec c fuel (.setChildren n (some ((pre ++ x :: post).map Arg.node))) s).res =
      .error (.hook i0 .preAttach x) ∧
    (exec c fuel (.setChildren n (some ((pre ++ x :: post).map Arg.node))) s).f = s :=
  have hsub : ∀ y ∈ pre, y ∈ pre ++ [x] := fun y hy => List.mem_append_left _ hy
  have hx : x ∈ pre ++ [x] := List.mem_append_right _ List.mem_cons_self
  attach_phase_elem_veto c fuel n pre x post s h hn hfuel hnd (fun y hy => hlt y (hsub y hy))
    (fun y hy => hpar y (hsub y hy)) (fun y hy => hatt y (hsub y hy)) (hatt x hx) .preAttach
    (Or.inl ⟨hpar x hx, rfl⟩) i0 hi0 hφ

/-- **A2, `_pre_detach`.**  `x` is a child of another node `q ≠ n`; the elements before it were
parentless or children of `n` (¬K3); exactly one hook invocation raises: the `_pre_detach` of `x`
when the attach loop is about to take it from `q` (invocation number `2·|old| + 3 + 2·|pre|`).
The call raises that exception and the forest is exactly the one before the call. -/
theorem C03_attach_phase_preDetach (c : Cfg) (fuel n : Nat) (pre : List Nat) (x q : Nat)
    (post : List Nat) (s : Forest) (h : Inv s) (hn : n < s.n) (hfuel : s.n + 3 < fuel)
    (hnd : (pre ++ x :: post).Nodup) (hlt : ∀ y ∈ pre, y < s.n)
    (hpar : ∀ y ∈ pre, s.parent y = none ∨ s.parent y = some n)
    (hatt : ∀ y ∈ pre, y ≠ n ∧ Spec.isAnc s y n = false)
    (hxq : s.parent x = some q) (hqn : q ≠ n) (hxatt : x ≠ n ∧ Spec.isAnc s x n = false)
    (i0 : Nat) (hi0 : i0 = 2 * (s.children n).length + 3 + 2 * pre.length)
    (hφ : c.φ = oneShot i0) :
    (exec c fuel (.setChildren n (some ((pre ++ x :: post).map Arg.node))) s).res =
      .error (.hook i0 .preDetach x) ∧
    (exec c fuel (.setChildren n (some ((pre ++ x :: post).map Arg.node))) s).f = s :=
  attach_phase_elem_veto c fuel n pre x post s h hn hfuel hnd hlt hpar hatt hxatt .preDetach
    (Or.inr ⟨⟨q, hxq, hqn⟩, rfl⟩) i0 hi0 hφ

/-- **A2, `LoopError`.**  No hook raises; `x` is `n` itself or an ancestor of `n`; the elements
before it were parentless or children of `n` (¬K3) and may become children of `n`.  The call raises
`LoopError` and the forest is exactly the one before the call. -/
theorem C03_attach_phase_loopError (c : Cfg) (fuel n : Nat) (pre : List Nat) (x : Nat)
    (post : List Nat) (s : Forest) (h : Inv s) (hn : n < s.n) (hfuel : s.n + 3 < fuel)
    (hnd : (pre ++ x :: post).Nodup) (hlt : ∀ y ∈ pre, y < s.n)
    (hpar : ∀ y ∈ pre, s.parent y = none ∨ s.parent y = some n)
    (hatt : ∀ y ∈ pre, y ≠ n ∧ Spec.isAnc s y n = false)
    (hbad : x = n ∨ Spec.isAnc s x n = true) (hφ : c.φ = noFaults) :
    (exec c fuel (.setChildren n (some ((pre ++ x :: post).map Arg.node))) s).res =
      .error .loopError ∧
    (exec c fuel (.setChildren n (some ((pre ++ x :: post).map Arg.node))) s).f = s := by
  obtain ⟨f', rfl⟩ := Nat.exists_eq_add_one.2 (Nat.zero_lt_of_lt hfuel)
  have hndp : pre.Nodup := (List.nodup_append.mp hnd).1
  rw [(exec_setChildren_nodes c _ n hnd s).1, (exec_setChildren_nodes c _ n hnd s).2]
  have L : Spec.Legal s n pre := ⟨h, hn, hndp, hlt, hatt⟩
  exact (setChildrenNodes_loopError f' x post ⟨s, [], 0⟩ L (Nat.lt_of_succ_lt_succ hfuel) hbad
    (.of_noFaults hφ _)).imp_right (·.trans (Spec.restored_eq_self L hpar c.fl))

/-- the three A2 statements in the vocabulary of the property: the raised exception is a refusal or
a pre-hook veto -/
example (i x : Nat) : isVeto (.hook i .preAttach x) = true ∧ isVeto (.hook i .preDetach x) = true ∧
    isVeto (.hook i .preAttachChildren x) = true ∧ isVeto .loopError = true := by
  simp [isVeto, HookKind.isPre]

end Anytree.Props.C03
