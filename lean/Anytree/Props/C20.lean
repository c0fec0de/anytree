import Anytree.Lemmas.Attr
/-!
# C20 — a symlink node has its own tree position and forwards the rest to its target

On a heap whose links store only local names (`Spec.LinkClean`: kept by every `setattr` and by the repaired
constructor) a forwarded read is the read at the end of the chain of links (`getattr_eq_readS`) and a
forwarded write is stored there (`setattr_lands`); write-then-read and the AttributeError case follow.
The tree position is the other component of the state (`structure_independent`).
-/
namespace Anytree.Props.C20
open Attr Spec
variable {V : Type}

/-- a name a link forwards: in none of the lists of names that `SymlinkNodeMixin.__setattr__` and
`__getattr__` keep for the link itself (`Spec.isLocal`; the lists are extracted from the source) -/
def Forwarded (name : String) : Prop := isLocal name = false

/-- **reads forward**: on a link, an attribute that is not in the link's own `__dict__` is read from
the target (one step) -/
theorem link_read_step (h : Heap V) (fuel i t : Nat) (name : String) (ht : (h i).target = some t)
    (hn : Forwarded name) (hown : dictGet (h i).dict name = none) :
    getattr h (fuel + 1) i name = getattr h fuel t name := by
  obtain ⟨_, h2, h3⟩ := isLocal_false hn
  simp only [getattr, hown, ht]
  rw [if_neg (by rw [h2]; simp), if_neg (by rw [h3]; simp)]

/-- **writes forward**: an assignment on a link of a forwarded name is the assignment on its target -/
theorem link_write_step (h : Heap V) (fuel i t : Nat) (name : String) (v : V)
    (ht : (h i).target = some t) (hn : Forwarded name) :
    setattr h (fuel + 1) i name v = setattr h fuel t name v :=
  setattr_succ_fwd h fuel i t name v ht (isLocal_false hn).1

/-- an assignment that succeeds stores on exactly one object `p` of the chain of links from `i`:
`p` is a link only if `__setattr__` keeps the name local, and for a forwarded name it is the real
object the chain ends in -/
theorem setattr_lands (h h' : Heap V) (fuel i : Nat) (name : String) (v : V)
    (hs : setattr h fuel i name v = some h') :
    ∃ p, h' = upd h p name v ∧
      ((h p).target ≠ none → Generated.symlinkSetattrLocal.contains name = true) ∧
      (Generated.symlinkSetattrLocal.contains name = false → resolve h fuel i = some p) := by
  fun_induction setattr h fuel i name v with
  | case1 => cases hs
  | case2 n i name v ht =>
    exact ⟨i, (Option.some.inj hs).symm, fun hne => absurd ht hne, fun _ => by simp only [resolve, ht]⟩
  | case3 n i name v t ht hl =>
    exact ⟨i, (Option.some.inj hs).symm, fun _ => hl, fun hf => Bool.noConfusion (hl.symm.trans hf)⟩
  | case4 n i name v t ht hl ih =>
    obtain ⟨p, e, hp, hr⟩ := ih hs
    exact ⟨p, e, hp, fun hf => by simp only [resolve, ht]; exact hr hf⟩

/-- a link's own dictionary holds local names only: kept by every assignment -/
theorem setattr_preserves_clean (h h' : Heap V) (fuel i : Nat) (name : String) (v : V)
    (hc : LinkClean h) (hs : setattr h fuel i name v = some h') : LinkClean h' := by
  obtain ⟨p, rfl, hok, _⟩ := setattr_lands h h' fuel i name v hs
  exact linkClean_upd h hc p name v hok

/-- assignments never change what an object links to -/
theorem setattr_target (h h' : Heap V) (fuel i : Nat) (name : String) (v : V)
    (hs : setattr h fuel i name v = some h') : ∀ j, (h' j).target = (h j).target := by
  obtain ⟨p, rfl, _⟩ := setattr_lands h h' fuel i name v hs
  exact upd_target h p name v

/-- **mirror = specification for reads**: with clean links, reading a forwarded name through any
chain of links gives exactly what the real target holds (value or AttributeError) -/
theorem getattr_eq_readS (h : Heap V) (hc : LinkClean h) (fuel i : Nat) (name : String)
    (hn : Forwarded name) : getattr h fuel i name = readS h fuel i name := by
  unfold readS
  fun_induction resolve h fuel i with
  | case1 => rfl
  | case2 n i ht => simp only [getattr, ht]; cases dictGet (h i).dict name <;> rfl
  | case3 n i t ht ih =>
    rw [link_read_step h n i t name ht hn
      (dictGet_none_of_keys _ _ name (hc i (by rw [ht]; simp)) (isLocal_false hn).1), ih]

/-- an assignment through any chain of links is stored in the real target's dictionary, and nothing
else changes -/
theorem setattr_stores_on_target (h h' : Heap V) (fuel i p : Nat) (name : String) (v : V)
    (hn : Forwarded name) (hr : resolve h fuel i = some p) (hs : setattr h fuel i name v = some h') :
    (h' p).dict = dictPut (h p).dict name v ∧ ∀ j, j ≠ p → h' j = h j := by
  obtain ⟨q, rfl, _, hq⟩ := setattr_lands h h' fuel i name v hs
  cases (hq (isLocal_false hn).1).symm.trans hr
  exact ⟨upd_self_dict h p name v, upd_other h p name v⟩

/-- **write then read, in both directions**: after `setattr(x, name, v)` every object whose chain of
links ends in the same real target as `x`'s reads `v` -/
theorem write_then_read (h h' : Heap V) (hc : LinkClean h) (fuel i j p : Nat) (name : String) (v : V)
    (hn : Forwarded name) (hri : resolve h fuel i = some p) (hrj : resolve h fuel j = some p)
    (hs : setattr h fuel i name v = some h') : getattr h' fuel j name = .value v := by
  have hc' := setattr_preserves_clean h h' fuel i name v hc hs
  have htg := setattr_target h h' fuel i name v hs
  have hst := (setattr_stores_on_target h h' fuel i p name v hn hri hs).1
  rw [getattr_eq_readS h' hc' fuel j name hn]
  simp only [readS, resolve_congr h h' htg fuel j, hrj, hst, dictGet_dictPut_self]

/-- reading an attribute the target lacks raises AttributeError -/
theorem missing_attr_error (h : Heap V) (hc : LinkClean h) (fuel i p : Nat) (name : String)
    (hn : Forwarded name) (hr : resolve h fuel i = some p) (hm : dictGet (h p).dict name = none) :
    getattr h fuel i name = .attributeError := by
  rw [getattr_eq_readS h hc fuel i name hn]
  simp only [readS, hr, hm]

/-- the repaired constructor keeps links clean (keyword attributes are forwarded, not stored on an
intermediate link). No freshness assumption on `i` is needed: the constructor overwrites object `i`
with an empty dictionary, which is clean. -/
theorem ctorLink_clean (h h' : Heap V) (hc : LinkClean h) (fuel i t : Nat) (kw : List (String × V))
    (hs : ctorLink false h fuel i t kw = some h') : LinkClean h' := by
  refine foldlM_option_inv LinkClean _
    (fun a e a' ha he => setattr_preserves_clean a a' fuel t e.1 e.2 ha he) kw _ h' ?_ hs
  intro j hj e he
  by_cases hji : j = i
  · simp [hji] at he
  · simp only [hji, if_false] at hj he
    exact hc j hj e he

def hD7 : Heap Nat := fun j => if j = 1 then ⟨[], some 0⟩ else ⟨[], none⟩      -- 0 plain, 1 → 0

/-- finding D7 (before the repair): a keyword attribute given to a link-to-a-link was stored on the
intermediate link and then shadowed later writes — kernel-checked witness -/
theorem D7_witness :
    (match ctorLink true hD7 8 2 1 [("foo", 1)] with
     | some h => (match setattr h 8 1 "foo" 5 with
        | some h' => getattr h' 8 1 "foo" = .value 1 ∧ getattr h' 8 0 "foo" = .value 5
        | none => False)
     | none => False) ∧
    (match ctorLink false hD7 8 2 1 [("foo", 1)] with
     | some h => (match setattr h 8 1 "foo" 5 with
        | some h' => getattr h' 8 1 "foo" = .value 5 ∧ getattr h' 8 2 "foo" = .value 5
        | none => False)
     | none => False) := by
  -- `show _ ∧ _` evaluates the `match`es, so that `decide` meets a conjunction
  refine ⟨?_, ?_⟩
  · show _ ∧ _
    decide
  · show _ ∧ _
    decide

/-- the name lists agree: everything `__getattr__` treats as local is also kept local by
`__setattr__` (extracted from the source on every run) -/
theorem bookkeeping_names_agree :
    ∀ n ∈ Generated.symlinkGetattrLocal, Generated.symlinkSetattrLocal.contains n = true := by
  decide

/-- the state of both models side by side -/
structure SState (V : Type) where
  forest : Forest
  heap : Heap V

def structuralStep (c : Cfg) (fuel : Nat) (op : Op) (s : SState V) : SState V :=
  { s with forest := (exec c fuel op s.forest).f }
def attrStep (fuel i : Nat) (name : String) (v : V) (s : SState V) : SState V :=
  { s with heap := (setattr s.heap fuel i name v).getD s.heap }

/-- structural calls and attribute operations act on disjoint components of the state, by construction
of the two models: the forest calls take no heap, `setattr` takes no forest -/
theorem structure_independent (c : Cfg) (fuel : Nat) (op : Op) (i : Nat) (name : String) (v : V)
    (s : SState V) :
    (structuralStep c fuel op s).heap = s.heap ∧ (attrStep fuel i name v s).forest = s.forest ∧
    structuralStep c fuel op (attrStep fuel i name v s) = attrStep fuel i name v (structuralStep c fuel op s) :=
  ⟨rfl, rfl, rfl⟩

end Anytree.Props.C20
