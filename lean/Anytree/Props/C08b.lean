import Batteries.Data.List.Basic
import Anytree.Lemmas.GlobGet
import Anytree.Props.C07
import Anytree.Props.C08
/-!
# C08b — strict `glob` agrees with `get` on wildcard-free paths over sibling-unique names

Last clause of C08: same node first (in fact: the one-element list of that node), same error — not
only the same error class but the identical `ResolverError` (class, node and component).

With `ignorecase` the two methods compare differently: `get` compares `str.upper()`, `glob` matches
under `re.IGNORECASE`.  The theorems therefore carry `CaseAgree c P` — the two foldings induce the
same equivalence on the characters of the node names and of the path — which is vacuous without
`ignorecase`, proved for ASCII and for the regular alphabet (`Spec.caseAgree_of_ascii`,
`Spec.caseAgree_of_regular`), and cannot be dropped: the examples at the end replay, in the model,
the disagreement of the real code on a child named KELVIN SIGN.
-/
namespace Anytree.Props.C08b
open Tree Str Resolver Spec
variable {α : Type}

/-- equal character by character under `eqChar ic`: same length, pairwise `eqChar` -/
abbrev EqChars (ic : Bool) (pat name : List Char) : Prop :=
  List.Forall₂ (fun x c => eqChar ic x c = true) pat name

theorem forall₂_beq_iff_map (f : Char → Char) : ∀ p n : List Char,
    List.Forall₂ (fun x c => (f x == f c) = true) p n ↔ n.map f = p.map f := by
  intro p
  induction p with
  | nil => intro n; cases n with
    | nil => exact ⟨fun _ => rfl, fun _ => .nil⟩
    | cons _ _ => exact ⟨fun h => (by cases h), fun h => (by cases h)⟩
  | cons x xs ih =>
    intro n
    cases n with
    | nil => exact ⟨fun h => (by cases h), fun h => (by cases h)⟩
    | cons y ys =>
      rw [List.forall₂_cons, ih, List.map_cons, List.map_cons, List.cons.injEq, beq_iff_eq]
      exact and_congr_left' eq_comm

theorem eqChars_iff_normRe (ic : Bool) (p n : List Char) :
    EqChars ic p n ↔ GlobL.normRe ic n = GlobL.normRe ic p := by
  unfold EqChars GlobL.normRe eqChar
  cases ic with
  | true => exact forall₂_beq_iff_map reKey p n
  | false => simpa using forall₂_beq_iff_map id p n

theorem EqChars.length_eq {ic : Bool} {pat name : List Char} (h : EqChars ic pat name) :
    pat.length = name.length := by
  induction h with
  | nil => rfl
  | cons _ _ ih => rw [List.length_cons, List.length_cons, ih]

/-- `EqChars` spelled out: same length and `eqChar` on every zipped pair -/
theorem eqChars_iff_zip (ic : Bool) (pat name : List Char) :
    EqChars ic pat name ↔
      pat.length = name.length ∧ ∀ {x c : Char}, (x, c) ∈ pat.zip name → eqChar ic x c = true := by
  induction pat generalizing name with
  | nil => cases name with
    | nil => exact ⟨fun _ => ⟨rfl, fun h => (by cases h)⟩, fun _ => .nil⟩
    | cons _ _ => exact ⟨fun h => (by cases h), fun h => (by cases h.1)⟩
  | cons y ys ih =>
    cases name with
    | nil => exact ⟨fun h => (by cases h), fun h => (by cases h.1)⟩
    | cons d ds =>
      rw [EqChars, List.forall₂_cons, ← EqChars, ih, List.length_cons, List.length_cons, Nat.succ_inj,
        List.zip_cons_cons]
      exact ⟨fun ⟨h, hl, hz⟩ => ⟨hl, fun hm => (List.mem_cons.mp hm).elim (fun e => by cases e; exact h) hz⟩,
        fun ⟨hl, hz⟩ => ⟨hz (List.mem_cons_self ..), hl, fun hm => hz (List.mem_cons_of_mem _ hm)⟩⟩

/-- a pattern without `*` and `?` matches a name iff the two are equal character by character
(under `re.IGNORECASE` if `ic`) -/
theorem literal_matches_itself (ic : Bool) (name pat : String) (hw : isWildcard pat = false) :
    matchPure ic name pat = true ↔ EqChars ic pat.toList name.toList :=
  (GlobL.matchPure_literal_iff ic name pat hw).trans (eqChars_iff_normRe ic _ _).symm

/-- `str.upper` agrees on two strings iff the per-character upper cases concatenate to the same string -/
theorem upper_eq_iff (s t : String) :
    upper s = upper t ↔ s.toList.flatMap upperStr = t.toList.flatMap upperStr :=
  String.ofList_inj

/-- `__cmp` as character-by-character equality under `re.IGNORECASE`, over case-regular characters -/
theorem cmp_iff_eqChars (ic : Bool) (name pat : String)
    {P : Char → Prop} (hP : ic = true → CaseFold.CaseRegular P)
    (hn : ∀ x ∈ name.toList, P x) (hp : ∀ x ∈ pat.toList, P x) :
    cmp ic name pat = true ↔ EqChars ic pat.toList name.toList := by
  rw [GlobL.cmp_iff_norm, ← GlobL.normRe_eq_iff_norm ic hP _ _ hn hp]
  exact (eqChars_iff_normRe ic pat.toList name.toList).symm

/-- `matchPure_eq_cmp` on ASCII strings -/
theorem matchPure_eq_cmp_ascii (ic : Bool) (name pat : String) (hw : isWildcard pat = false)
    (hn : ∀ x ∈ name.toList, x.toNat < 128) (hp : ∀ x ∈ pat.toList, x.toNat < 128) :
    matchPure ic name pat = cmp ic name pat :=
  matchPure_eq_cmp ic name pat hw (fun _ => CaseFold.caseRegular_ascii) hn hp

/-- `matchPure_eq_cmp` (Lemmas/GlobGet.lean) through the compiled-pattern cache -/
theorem matchC_eq_cmp (ic : Bool) (k : Cache) (hk : C08.CacheInv k) (name pat : String)
    (hw : isWildcard pat = false)
    {P : Char → Prop} (hP : ic = true → CaseFold.CaseRegular P)
    (hn : ∀ x ∈ name.toList, P x) (hp : ∀ x ∈ pat.toList, P x) :
    (matchC ic k name pat).1 = cmp ic name pat := by
  rw [(C08.matchC_transparent ic k name pat hk).1]
  exact matchPure_eq_cmp ic name pat hw hP hn hp

/-- under sibling-uniqueness the child `get` steps to is the only child the literal component
selects (two siblings equal to the pattern are equal to each other: `cmp` is symmetric and
transitive) -/
theorem matching_literal_of_getChild (c : Ctx α) (hsu : SiblingUnique c) (a : Addr) (name : String)
    (hw : isWildcard name = false) (hca : CaseAgree c (· ∈ name.toList))
    (ch : Addr) (h : getChild c a name = some ch) :
    matching c a name = [ch] := by
  rw [GlobL.matching_literal c a name hw hca]
  exact GlobL.filter_cmp_of_find c hsu a name ch h

theorem matching_literal_of_getChild_none (c : Ctx α) (a : Addr) (name : String)
    (hw : isWildcard name = false) (hca : CaseAgree c (· ∈ name.toList))
    (h : getChild c a name = none) : matching c a name = [] := by
  rw [GlobL.matching_literal c a name hw hca, List.filter_eq_nil_iff]
  exact List.find?_eq_none.mp h

/-- a *plain* component: an ordinary name — not `..`, `.`, `''`, `**`, and free of `*`/`?` -/
def PlainComp (p : String) : Prop :=
  p ≠ ".." ∧ p ≠ "." ∧ p ≠ "" ∧ p ≠ "**" ∧ isWildcard p = false

/-- the components of a wildcard-free path: plain, or one of `..`, `.`, `''` -/
def Admissible (p : String) : Prop := PlainComp p ∨ p = ".." ∨ p = "." ∨ p = ""

/-- `Admissible` is just: no `*` and no `?` (`**` is a wildcard component) -/
theorem admissible_iff (p : String) : Admissible p ↔ isWildcard p = false := by
  constructor
  · rintro (h | rfl | rfl | rfl)
    · exact h.2.2.2.2
    · decide
    · decide
    · decide
  · intro hw
    by_cases h : p = ".." ∨ p = "." ∨ p = ""
    · exact Or.inr h
    · simp only [not_or] at h
      exact Or.inl ⟨h.1, h.2.1, h.2.2, fun h4 => (by rw [h4] at hw; cases hw), hw⟩

def SameClass : RErr → RErr → Prop
  | .root _, .root _ => True
  | .child _ _, .child _ _ => True
  | .plain _, .plain _ => True
  | _, _ => False

theorem SameClass.refl (e : RErr) : SameClass e e := by cases e <;> trivial

/-- **strict `__glob` = the walk of `get`** on admissible component lists over sibling-unique names:
the one-element list of the node the walk reaches, or the very error of the walk's first failing
component.  Holds for every start address (validity is not needed) and every well-formed cache. -/
theorem globM_literal (c : Ctx α) (hr : c.relax = false) (hsu : SiblingUnique c)
    {P : Char → Prop} (hca : CaseAgree c P)
    (parts : List String) (hp : ∀ p ∈ parts, Admissible p)
    (hpP : ∀ p ∈ parts, ∀ x ∈ p.toList, P x) (a : Addr)
    (k : Cache) (hk : C08.CacheInv k) :
    (globM false c parts a k).1 =
      (match walkPath c parts a with
       | .ok b => .ok [b]
       | .error e => .error e) := by
  rw [GlobL.globM_fst false c parts a hk]
  exact GlobL.globP_literal c hr hsu hca parts (fun p h => (admissible_iff p).mp (hp p h)) hpP a

theorem globM_literal_ok (c : Ctx α) (hr : c.relax = false) (hsu : SiblingUnique c)
    {P : Char → Prop} (hca : CaseAgree c P)
    (parts : List String) (hp : ∀ p ∈ parts, Admissible p)
    (hpP : ∀ p ∈ parts, ∀ x ∈ p.toList, P x) (a : Addr)
    (k : Cache) (hk : C08.CacheInv k) (b : Addr) (h : walkPath c parts a = .ok b) :
    (globM false c parts a k).1 = .ok [b] := by
  rw [globM_literal c hr hsu hca parts hp hpP a k hk, h]

/-- the form the property states: an error of the same class (in fact the identical error) -/
theorem globM_literal_error_class (c : Ctx α) (hr : c.relax = false) (hsu : SiblingUnique c)
    {P : Char → Prop} (hca : CaseAgree c P)
    (parts : List String) (hp : ∀ p ∈ parts, Admissible p)
    (hpP : ∀ p ∈ parts, ∀ x ∈ p.toList, P x) (a : Addr)
    (k : Cache) (hk : C08.CacheInv k) (e : RErr) (h : walkPath c parts a = .error e) :
    ∃ e', (globM false c parts a k).1 = .error e' ∧ SameClass e e' :=
  ⟨e, by rw [globM_literal c hr hsu hca parts hp hpP a k hk, h], SameClass.refl e⟩

/-- only `RootResolverError` and `ChildResolverError` arise below the root component -/
theorem walk_error_root_or_child (c : Ctx α) (parts : List String) (a : Addr) (e : RErr)
    (h : walkPath c parts a = .error e) : (∃ n, e = .root n) ∨ (∃ n x, e = .child n x) := by
  obtain ⟨_, p, _, b, _, _, _, h4⟩ := C07.walk_error_class c parts a e h
  rcases h4 with ⟨_, _, h5⟩ | ⟨h5, _⟩
  · exact Or.inl ⟨[], h5⟩
  · exact Or.inr ⟨b, p, h5⟩

/-- **strict `glob` = strict `get`** on a path whose components are all free of `*` and `?`, over
sibling-unique names, from any start node and with any well-formed cache: the one-element list of
the node `get` returns, or the identical error (the root component of an absolute path included:
`__match` and `__cmp` agree on it, both raise the plain `ResolverError` on the root).
No assumption on the separator is needed in strict mode (for `sep = ""` both raise). -/
theorem glob_eq_get_of_components (c : Ctx α) (hr : c.relax = false) (hsu : SiblingUnique c)
    (a : Addr) (path : String) (hca : CaseAgree c (· ∈ path.toList))
    (hp : ∀ p ∈ split c.sep path, isWildcard p = false)
    (k : Cache) (hk : C08.CacheInv k) :
    (Resolver.glob false c a path k).1 =
      (match Resolver.get c a path with
       | .ok (some b) => .ok [b]
       | .ok none => .ok []
       | .error e => .error e) := by
  rw [(GlobL.Tr.iff.mp (GlobL.glob_tr false c a path hk)).1, C07.get_strict c hr a path,
    GlobL.globTopP_literal c hr hsu a path hca hp]
  cases getStrictS c a path <;> rfl

/-- strict `glob` = strict `get` on a path string without `*` and `?` (`glob_eq_get_of_components` after
`split`) -/
theorem glob_eq_get (c : Ctx α) (hr : c.relax = false) (hsu : SiblingUnique c)
    (a : Addr) (path : String) (hca : CaseAgree c (· ∈ path.toList)) (hw : isWildcard path = false)
    (k : Cache) (hk : C08.CacheInv k) :
    (Resolver.glob false c a path k).1 =
      (match Resolver.get c a path with
       | .ok (some b) => .ok [b]
       | .ok none => .ok []
       | .error e => .error e) :=
  glob_eq_get_of_components c hr hsu a path hca (split_wildcard_free c.sep path hw) k hk

/-- same node first (and only) -/
theorem glob_ok_of_get_ok (c : Ctx α) (hr : c.relax = false) (hsu : SiblingUnique c)
    (a : Addr) (path : String) (hca : CaseAgree c (· ∈ path.toList)) (hw : isWildcard path = false)
    (k : Cache) (hk : C08.CacheInv k) (b : Addr) (h : Resolver.get c a path = .ok (some b)) :
    (Resolver.glob false c a path k).1 = .ok [b] := by
  rw [glob_eq_get c hr hsu a path hca hw k hk, h]

/-- same error (class, node and component) -/
theorem glob_error_of_get_error (c : Ctx α) (hr : c.relax = false) (hsu : SiblingUnique c)
    (a : Addr) (path : String) (hca : CaseAgree c (· ∈ path.toList)) (hw : isWildcard path = false)
    (k : Cache) (hk : C08.CacheInv k) (e : RErr) (h : Resolver.get c a path = .error e) :
    (Resolver.glob false c a path k).1 = .error e := by
  rw [glob_eq_get c hr hsu a path hca hw k hk, h]

theorem glob_error_class_of_get_error (c : Ctx α) (hr : c.relax = false) (hsu : SiblingUnique c)
    (a : Addr) (path : String) (hca : CaseAgree c (· ∈ path.toList)) (hw : isWildcard path = false)
    (k : Cache) (hk : C08.CacheInv k) (e : RErr) (h : Resolver.get c a path = .error e) :
    ∃ e', (Resolver.glob false c a path k).1 = .error e' ∧ SameClass e e' :=
  ⟨e, glob_error_of_get_error c hr hsu a path hca hw k hk e h, SameClass.refl e⟩

/-- and conversely: whatever strict `glob` gives on a wildcard-free path is what `get` gives -/
theorem get_of_glob (c : Ctx α) (hr : c.relax = false) (hsu : SiblingUnique c)
    (a : Addr) (path : String) (hca : CaseAgree c (· ∈ path.toList)) (hw : isWildcard path = false)
    (k : Cache) (hk : C08.CacheInv k) :
    (∀ l, (Resolver.glob false c a path k).1 = .ok l → ∃ b, l = [b] ∧ Resolver.get c a path = .ok (some b)) ∧
    (∀ e, (Resolver.glob false c a path k).1 = .error e → Resolver.get c a path = .error e) := by
  have hg := glob_eq_get c hr hsu a path hca hw k hk
  -- strict `get` never returns `None`
  have hn : Resolver.get c a path ≠ .ok none := by
    rw [C07.get_strict c hr a path]; cases getStrictS c a path <;> simp
  rcases hget : Resolver.get c a path with e | (_ | b)
  · rw [hget] at hg
    simp only at hg
    rw [hg]
    exact ⟨fun l h => (by cases h), fun e' h => (by cases h; rfl)⟩
  · exact absurd hget hn
  · rw [hget] at hg
    simp only at hg
    rw [hg]
    exact ⟨fun l h => (by cases h; exact ⟨b, rfl, rfl⟩), fun e' h => (by cases h)⟩

/-- the form for ASCII names and an ASCII path (any `ignorecase`) -/
theorem glob_eq_get_ascii (c : Ctx α) (hr : c.relax = false) (hsu : SiblingUnique c)
    (a : Addr) (path : String) (hn : ∀ b, ∀ x ∈ (c.name b).toList, x.toNat < 128)
    (hpa : ∀ x ∈ path.toList, x.toNat < 128) (hw : isWildcard path = false)
    (k : Cache) (hk : C08.CacheInv k) :
    (Resolver.glob false c a path k).1 =
      (match Resolver.get c a path with
       | .ok (some b) => .ok [b]
       | .ok none => .ok []
       | .error e => .error e) :=
  glob_eq_get c hr hsu a path (caseAgree_of_ascii c _ hn hpa) hw k hk

/-- … and without `ignorecase`, whatever the characters -/
theorem glob_eq_get_caseSensitive (c : Ctx α) (hr : c.relax = false) (hic : c.ignorecase = false)
    (hsu : SiblingUnique c) (a : Addr) (path : String) (hw : isWildcard path = false)
    (k : Cache) (hk : C08.CacheInv k) :
    (Resolver.glob false c a path k).1 =
      (match Resolver.get c a path with
       | .ok (some b) => .ok [b]
       | .ok none => .ok []
       | .error e => .error e) :=
  glob_eq_get c hr hsu a path (caseAgree_of_ignorecase_false c _ hic) hw k hk

/-! `CaseAgree` cannot be dropped.  A root with the single child `\u212a` (KELVIN SIGN),
`ignorecase=True`, strict: `get(root, "k")` raises `ChildResolverError` (`"\u212a".upper()` is the sign
itself, not `"K"`), while `glob(root, "k")` returns the child (`re.IGNORECASE` folds the sign to `k`).
The names are sibling-unique.  This is the behaviour of the real code too (the `casetable` cases of the
correspondence run replay it). -/

instance decEqExcept {ε β : Type} [DecidableEq ε] [DecidableEq β] : DecidableEq (Except ε β)
  | .ok a, .ok b => if h : a = b then isTrue (h ▸ rfl) else isFalse fun e => h (Except.ok.inj e)
  | .error a, .error b => if h : a = b then isTrue (h ▸ rfl) else isFalse fun e => h (Except.error.inj e)
  | .ok _, .error _ => isFalse nofun
  | .error _, .ok _ => isFalse nofun

def kTree : Tree String := .node "root" [.node "\u212a" []]

def kCtx : Ctx String := ⟨kTree, id, "/", true, false⟩

example : matchPure true "\u212a" "k" = true ∧ cmp true "\u212a" "k" = false := by decide
example : Resolver.get kCtx [] "k" = .error (.child [] "k") := by decide
#guard (Resolver.glob false kCtx [] "k" []).1 == .ok [[0]]      -- evaluated, not kernel-checked
example : SiblingUnique kCtx := (C07.siblingUnique_iff _).mpr (by decide)
example : ¬ CaseAgree kCtx (· ∈ "k".toList) := by
  intro h
  have := (h rfl).2 '\u212a' 'k' (Or.inr ⟨[0], by decide⟩) (Or.inl (by decide))
  exact CaseFold.signs_irregular.1.2 (this.mp CaseFold.signs_irregular.1.1)

/-- with a regular non-ASCII letter instead the two agree, as the theorem says -/
def eTree : Tree String := .node "root" [.node "\u00c9" []]

def eCtx : Ctx String := ⟨eTree, id, "/", true, false⟩
example : matchPure true "\u00c9" "\u00e9" = true ∧ cmp true "\u00c9" "\u00e9" = true := by decide
example : Resolver.get eCtx [] "\u00e9" = .ok (some [0]) := by decide
#guard (Resolver.glob false eCtx [] "\u00e9" []).1 == .ok [[0]]

/-- the second kind of disagreement, from the other side: a child named `ß` is found by
`get(root, "ss")` (`"ß".upper()` is `"SS"`) and not by `glob(root, "ss")` (`re.IGNORECASE` lets `ß`
match only `ß` and `ẞ`) -/
def sTree : Tree String := .node "root" [.node "\u00df" []]

def sCtx : Ctx String := ⟨sTree, id, "/", true, false⟩
example : matchPure true "\u00df" "ss" = false ∧ cmp true "\u00df" "ss" = true := by decide
example : Resolver.get sCtx [] "ss" = .ok (some [0]) := by decide
#guard (Resolver.glob false sCtx [] "ss" []).1 == .error (.child [] "ss")      -- evaluated, not kernel-checked

end Anytree.Props.C08b
