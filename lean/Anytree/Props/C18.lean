import Anytree.Lemmas.Agree
/-!
# C18 — LightNodeMixin behaves identically to NodeMixin

`lightnodemixin.py` is a copy of `nodemixin.py` without the two `isinstance` checks.  In the mirror
the flavour is read in exactly two places (`setParent` and `checkChildren`, both only for a non-node
argument — the walk of `Lemmas/Agree.lean`, taken here with equal schedules), so for calls whose
arguments are tree nodes the two flavours run the same program:
same outcome, same forest, same hook log — for every fault schedule and assertion setting.
The read side (navigation, iterators, Walker, Resolver, RenderTree) has one mirror for both
flavours, so equality there holds by construction and is validated by the lock-step run.
-/
namespace Anytree.Props.C18

/-- same assertion switch and fault schedule, flavours may differ -/
def SameButFlavor (c1 c2 : Cfg) : Prop := c1.asrt = c2.asrt ∧ c1.φ = c2.φ

theorem sameButFlavor (fl1 fl2 : Flavor) (asrt : Bool) (φ : Faults) :
    SameButFlavor ⟨fl1, asrt, φ⟩ ⟨fl2, asrt, φ⟩ := ⟨rfl, rfl⟩

def NodeArg : Option Arg → Prop
  | some .nonNode => False
  | _ => True

def NodeArgs : List Arg → Prop
  | [] => True
  | .nonNode :: _ => False
  | .node _ :: rest => NodeArgs rest

theorem eq_of_both {c1 c2 : Cfg} (h : SameButFlavor c1 c2) {a : Cfg → M}
    (hb : ∀ (asrt : Bool) (φ : Faults) hi, Both 0 hi (a ⟨c1.fl, asrt, φ⟩) (a ⟨c2.fl, asrt, φ⟩)) :
    a c1 = a c2 := by
  obtain ⟨fl1, a1, φ1⟩ := c1
  obtain ⟨fl2, a2, φ2⟩ := c2
  obtain ⟨rfl, rfl⟩ : a1 = a2 ∧ φ1 = φ2 := h
  exact Both.eq (hb a1 φ1)

theorem setParent_eq {c1 c2 : Cfg} (h : SameButFlavor c1 c2) (fuel n : Nat) (v : Option Arg)
    (hv : NodeArg v) : setParent c1 fuel n v = setParent c2 fuel n v :=
  eq_of_both h (a := fun c => setParent c fuel n v) fun asrt _ _ =>
    Both.setParent asrt (fun _ _ _ _ _ => rfl) fuel n v fun e => by subst e; exact hv.elim

theorem delChildren_eq {c1 c2 : Cfg} (h : SameButFlavor c1 c2) (fuel n : Nat) :
    delChildren c1 fuel n = delChildren c2 fuel n :=
  eq_of_both h (a := fun c => delChildren c fuel n) fun asrt _ _ =>
    Both.delChildren asrt (fun _ _ _ _ _ => rfl) fuel n

theorem checkChildren_flavor (fl1 fl2 : Flavor) :
    ∀ (seen : List Nat) (as : List Arg), NodeArgs as → checkChildren fl1 seen as = checkChildren fl2 seen as := by
  intro seen as
  induction as generalizing seen with
  | nil => intro _; rfl
  | cons a as ih =>
    intro ha
    cases a with
    | nonNode => exact absurd ha (by simp [NodeArgs])
    | node k =>
      simp only [checkChildren]
      split
      · rfl
      · exact ih _ ha

/-- the children setter after `__check_children` — the function its restore re-enters — is the same
program in both flavours (the restore checks a list of nodes).  An inner function: the statement
about `n.children = as` is `setChildren_flavor` -/
theorem setChildrenNodes_eq {c1 c2 : Cfg} (h : SameButFlavor c1 c2) :
    ∀ (fuel n : Nat) (xs : List Nat), setChildrenNodes c1 fuel n xs = setChildrenNodes c2 fuel n xs :=
  fun fuel n xs => eq_of_both h (a := fun c => setChildrenNodes c fuel n xs) fun asrt _ _ =>
    Both.setChildrenNodes asrt (fun _ _ _ _ _ => rfl) fuel n xs

theorem setChildren_eq {c1 c2 : Cfg} (h : SameButFlavor c1 c2) (fuel n : Nat) (xs : Option (List Arg))
    (hx : ∀ l, xs = some l → NodeArgs l) : setChildren c1 fuel n xs = setChildren c2 fuel n xs := by
  cases xs with
  | none => rfl
  | some l =>
    simp only [setChildren]
    rw [checkChildren_flavor c1.fl c2.fl [] l (hx l rfl)]
    cases checkChildren c2.fl [] l with
    | error e => rfl
    | ok u => simp only [setChildrenNodes_eq h]

/-- **C18 on the model**: for calls with tree-node arguments the two flavours agree on outcome,
forest and hook log, for every fault schedule, assertion setting and fuel -/
theorem setParent_flavor (asrt : Bool) (φ : Faults) (fuel n : Nat) (v : Option Arg) (hv : NodeArg v)
    (s : Forest) :
    exec ⟨.light, asrt, φ⟩ fuel (.setParent n v) s = exec ⟨.nm, asrt, φ⟩ fuel (.setParent n v) s := by
  simp only [exec, Op.run, setParent_eq (sameButFlavor .light .nm asrt φ) fuel n v hv]

/-- … for `del n.children`, which takes no argument -/
theorem delChildren_flavor (asrt : Bool) (φ : Faults) (fuel n : Nat) (s : Forest) :
    exec ⟨.light, asrt, φ⟩ fuel (.delChildren n) s = exec ⟨.nm, asrt, φ⟩ fuel (.delChildren n) s := by
  simp only [exec, Op.run, delChildren_eq (sameButFlavor .light .nm asrt φ) fuel n]

/-- … and for `n.children = as` when every element of `as` is a tree node -/
theorem setChildren_flavor (asrt : Bool) (φ : Faults) (fuel n : Nat) (as : List Arg)
    (ha : NodeArgs as) (s : Forest) :
    exec ⟨.light, asrt, φ⟩ fuel (.setChildren n (some as)) s =
      exec ⟨.nm, asrt, φ⟩ fuel (.setChildren n (some as)) s := by
  simp only [exec, Op.run, setChildren_eq (sameButFlavor .light .nm asrt φ) fuel n _
    fun _ e => Option.some.inj e ▸ ha]

/-- a non-iterable children argument is refused alike -/
theorem setChildren_nonIterable_flavor (asrt : Bool) (φ : Faults) (fuel n : Nat) (s : Forest) :
    exec ⟨.light, asrt, φ⟩ fuel (.setChildren n none) s = exec ⟨.nm, asrt, φ⟩ fuel (.setChildren n none) s := rfl

-- non-vacuity: the hypotheses are met by ordinary calls
example : NodeArg (some (.node 3)) ∧ NodeArg none ∧ NodeArgs [.node 1, .node 2] := ⟨trivial, trivial, trivial⟩

end Anytree.Props.C18
