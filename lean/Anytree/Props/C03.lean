import Anytree.Lemmas.Faults
import Anytree.Props.C01
/-!
# C03 — a refused or hook-vetoed structural change leaves the whole forest untouched

The full statement (`C03_full`) is **false** of the unchanged code: `C03_full_false` proves it from
the kernel-checked witness K1; K2, K3 and K4 (`K4_witness`, Lemmas/Faults.lean) are further witnesses,
and each is also a replay on the implementation (`known_findings.json`).  What is true is proved as
`C03_partial_*`; the hypotheses are the complements of the finding classes.  `K1_state` pins the exact
damage of class K1, `K4_persistent_preAttachChildren_diverges` and `K4_state` that of K4.
-/
namespace Anytree.Props.C03

/-- the call was refused (invalid request) or vetoed by a pre hook -/
def isVeto : Err → Bool
  | .treeError | .loopError | .typeError => true
  | .hook _ k _ => k.isPre
  | _ => false

def errOf : Except Err Unit → Option Err
  | .ok _ => none
  | .error e => some e

def isStructuralCall : Op → Bool
  | .ctor _ _ => false
  | _ => true

/-- **the property as stated**: every refused or pre-hook-vetoed `n.parent = p`, `n.children = xs`
or `del n.children`, from every consistent forest, under every fault schedule, leaves every node's
parent and ordered children as they were -/
def C03_full : Prop :=
  ∀ (c : Cfg) (fuel : Nat) (op : Op) (s : Forest), Inv s → C01.WellFormed s op → s.n < fuel →
    isStructuralCall op = true →
    ∀ e, errOf (exec c fuel op s).res = some e → isVeto e = true → (exec c fuel op s).f.snap = s.snap

def mkForest (ops : List Op) : Forest :=
  C01.runHistory 64 (ops.map fun o => (⟨.nm, false, noFaults⟩, o)) Forest.empty

/-- `0 → [1]`, `2` a separate root -/
def sK1 : Forest := mkForest [.ctor none .none, .ctor (some (.node 0)) .none, .ctor none .none]
/-- the third hook invocation raises -/
def cK1 : Cfg := ⟨.nm, false, fun i _ _ => i == 2⟩
def opK1 : Op := .setParent 1 (some (.node 2))

/-- `0 → [1, 2]` -/
def sK2 : Forest := mkForest [.ctor none .none, .ctor (some (.node 0)) .none, .ctor (some (.node 0)) .none]
/-- the fourth hook invocation raises -/
def cK2 : Cfg := ⟨.nm, false, fun i _ _ => i == 3⟩
def opK2 : Op := .delChildren 0

/-- `0 → [1]`, `3 → [2]` -/
def sK3 : Forest := mkForest [.ctor none .none, .ctor (some (.node 0)) .none, .ctor none .none,
  .ctor none .none, .setParent 2 (some (.node 3))]
def cK3 : Cfg := ⟨.nm, false, noFaults⟩
def opK3 : Op := .setChildren 1 (some [.node 2, .node 0])

theorem inv_sK1 : Inv sK1 := C01.inv_history 64 _ _ C01.inv_empty (by decide)

/-- **K1** (C03 fails): on `0 → [1]` with `2` a separate root, `1.parent = 2` vetoed by `1._pre_attach(2)`
(the third hook invocation) raises that exception and leaves `1` detached from `0` -/
theorem K1_witness :
    errOf (exec cK1 64 opK1 sK1).res = some (.hook 2 .preAttach 1) ∧
    (exec cK1 64 opK1 sK1).f.snap = [(none, []), (none, []), (none, [])] ∧
    sK1.snap = [(none, [1]), (some 0, []), (none, [])] := by decide

/-- **K2** (C03 fails): on `0 → [1, 2]`, `del 0.children` vetoed by the second child's `_pre_detach`
(the fourth hook invocation) raises that exception with the first child already detached -/
theorem K2_witness :
    errOf (exec cK2 64 opK2 sK2).res = some (.hook 3 .preDetach 2) ∧
    (exec cK2 64 opK2 sK2).f.snap = [(none, [2]), (none, []), (some 0, [])] ∧
    sK2.snap = [(none, [1, 2]), (some 0, []), (some 0, [])] := by decide

/-- **K3** (C03 fails): on `0 → [1]`, `3 → [2]`, the call `1.children = [2, 0]` takes `2` from `3`, is
refused at `0` (an ancestor of `1`) with `LoopError`, and the restore leaves `2` a root -/
theorem K3_witness :
    errOf (exec cK3 64 opK3 sK3).res = some .loopError ∧
    (exec cK3 64 opK3 sK3).f.snap = [(none, [1]), (some 0, []), (none, []), (none, [])] ∧
    sK3.snap = [(none, [1]), (some 0, []), (some 3, []), (none, [2])] := by decide +kernel

/-- the property as stated does not hold of the mirror (hence, by the correspondence, of the code) -/
theorem C03_full_false : ¬ C03_full := by
  intro hfull
  have := hfull cK1 64 opK1 sK1 inv_sK1 (by decide) (by decide) rfl (.hook 2 .preAttach 1)
    K1_witness.1 rfl
  rw [K1_witness.2.1, K1_witness.2.2] at this
  exact absurd this (by decide)

/-- a parent assignment that is refused, or vetoed by `_pre_detach`, or vetoed by `_pre_attach`
while the node is a root, leaves the forest exactly as it was (¬K1) -/
theorem C03_partial_setParent (c : Cfg) (fuel n : Nat) (v : Option Arg) (s : Forest) (h : Inv s)
    (hv : ArgOk s.n v) (hfuel : s.n < fuel) (e : Err)
    (he : (exec c fuel (.setParent n v) s).res = .error e) (hveto : isVeto e = true)
    (hK1 : ∀ i m, e = .hook i .preAttach m → s.parent n = none) :
    (exec c fuel (.setParent n v) s).f = s := by
  rcases setParent_err c fuel n v ⟨s, [], 0⟩ h he with ⟨_, hf⟩ | ⟨i, k, rfl, hf⟩
  · exact hf
  -- `hf : Spec.seenBy s n v k = some f'`, the forest the hook of kind `k` observes; each kind reads it off
  · cases k with
    | preDetach => exact (Option.some.inj hf).symm
    | preAttach => exact (Option.some.inj hf).symm.trans (Spec.detached_root (hK1 i n rfl))
    | postDetach | postAttach => cases hveto
    | _ => cases hf

/-- the exact damage of finding K1: a move vetoed by `_pre_attach` leaves the node detached from
its old parent — nothing else differs -/
theorem K1_state (c : Cfg) (fuel n : Nat) (v : Option Arg) (s : Forest) (h : Inv s)
    (hv : ArgOk s.n v) (hfuel : s.n < fuel) (i m : Nat)
    (he : (exec c fuel (.setParent n v) s).res = .error (.hook i .preAttach m)) :
    (exec c fuel (.setParent n v) s).f = Spec.detached s n :=
  (Option.some.inj (setParent_hook_state c fuel n v s h he).2).symm

/-- from a consistent forest no internal assertion fires in the parent setter, whatever the hooks do,
and with enough fuel its loop check does not run dry -/
theorem setParent_no_assertion (c : Cfg) (fuel n : Nat) (v : Option Arg) (s : Forest) (h : Inv s)
    (hv : ArgOk s.n v) (hfuel : s.n < fuel) :
    (exec c fuel (.setParent n v) s).res ≠ .error .assertion ∧
    (exec c fuel (.setParent n v) s).res ≠ .error .diverged := by
  refine ⟨fun he => ?_, setParent_ne_diverged c fuel n v ⟨s, [], 0⟩ h hv hfuel⟩
  rcases setParent_err c fuel n v ⟨s, [], 0⟩ h he with ⟨hr, _⟩ | ⟨_, _, e, _⟩
  · cases hr
  · cases e

/-- non-iterable argument, duplicate child, non-node child: nothing is touched and no hook fires -/
theorem C03_partial_setChildren_checks (c : Cfg) (fuel n : Nat) (xs : Option (List Arg)) (s : Forest)
    (hbad : xs = none ∨ ∃ as e, xs = some as ∧ checkChildren c.fl [] as = .error e) :
    (exec c fuel (.setChildren n xs) s).f = s ∧ (exec c fuel (.setChildren n xs) s).log = [] := by
  simp only [exec, Op.run, setChildren]
  cases hbad with
  | inl h => subst h; simp [M.throw]
  | inr h =>
    obtain ⟨as, e, hx, hc⟩ := h
    subst hx
    simp [hc, M.throw]

/-- `del n.children` vetoed by `_pre_detach_children`, or by the *first* child's `_pre_detach`,
leaves the forest exactly as it was — under every fault schedule (¬K2) -/
theorem C03_partial_delChildren (c : Cfg) (fuel n : Nat) (s : Forest) (h : Inv s) (hfuel : s.n < fuel)
    (i : Nat) (k : HookKind) (m : Nat)
    (he : (exec c fuel (.delChildren n) s).res = .error (.hook i k m))
    (hk : k = .preDetachChildren ∨ (k = .preDetach ∧ (s.children n).head? = some m)) :
    (exec c fuel (.delChildren n) s).f = s :=
  delChildren_first_veto_world c fuel n ⟨s, [], 0⟩ h i k m he hk

/-- the same vetoes in the delete phase of `n.children = xs`.  The hypothesis `he` is about the separate
call `del n.children` with fuel `fuel`; the conclusion is about the setter with `fuel + 1`. -/
theorem C03_partial_setChildren_delete_phase (c : Cfg) (fuel n : Nat) (as : List Arg) (s : Forest)
    (h : Inv s) (hfuel : s.n < fuel) (hchk : checkChildren c.fl [] as = .ok ()) (i : Nat)
    (k : HookKind) (m : Nat)
    (he : (exec c fuel (.delChildren n) s).res = .error (.hook i k m))
    (hk : k = .preDetachChildren ∨ (k = .preDetach ∧ (s.children n).head? = some m)) :
    (exec c (fuel + 1) (.setChildren n (some as)) s).res = .error (.hook i k m) ∧
    (exec c (fuel + 1) (.setChildren n (some as)) s).f = s := by
  have hf := delChildren_first_veto_world c fuel n ⟨s, [], 0⟩ h i k m he hk
  simp only [exec, Op.run, setChildren, hchk, setChildrenNodes, M.seq] at he hf ⊢
  cases hr : delChildren c fuel n ⟨s, [], 0⟩ with
  | mk r w' =>
    rw [hr] at he hf
    cases he
    exact ⟨rfl, hf⟩

/-- the errors the detach loop of a children deletion can raise: only the detach hooks of the children
themselves; the forest stays consistent whatever happens -/
theorem delete_loop_errors (c : Cfg) (fuel : Nat) (cs : List Nat) (w : World) (h : Inv w.f) :
    (∀ e, (forM' cs (fun ch => setParent c fuel ch none) w).1 = .error e →
      ∃ i k m, e = .hook i k m ∧ m ∈ cs ∧ (k = .preDetach ∨ k = .postDetach)) ∧
    Inv (forM' cs (fun ch => setParent c fuel ch none) w).2.f :=
  ⟨(detachLoop_errors c fuel cs w h).1, (detachLoop_errors c fuel cs w h).2.1⟩

/-- with a `_pre_attach_children` hook that always raises (a read-only class), `n.children = xs`
neither returns nor raises an ordinary exception, **for every amount of fuel**: the `except` branch
calls the setter again, which is vetoed again (Python: `RecursionError`).  The mirror's answer is
`diverged` (`persistent_preAttachChildren_diverges`); here that is said as "nothing else". -/
theorem K4_persistent_preAttachChildren_diverges (c : Cfg)
    (hφ : c.φ = fun _ k _ => k == .preAttachChildren) (fuel n : Nat) (xs : List Nat) (w : World)
    (h : Inv w.f) :
    (setChildrenNodes c fuel n xs w).1 ≠ .ok () ∧
    ∀ e, e ≠ .diverged → (setChildrenNodes c fuel n xs w).1 ≠ .error e := by
  rw [persistent_preAttachChildren_diverges c hφ fuel n xs w h]
  exact ⟨fun e => (by cases e), fun e he heq => he (Except.error.inj heq).symm⟩

/-- … and what it leaves behind: `n` has lost its children (they are not re-attached) -/
theorem K4_state (c : Cfg) (hφ : c.φ = fun _ k _ => k == .preAttachChildren) (fuel n : Nat)
    (xs : List Nat) (w : World) (h : Inv w.f) :
    (setChildrenNodes c (fuel + 1) n xs w).2.f = (Spec.delChildren w.f n).f :=
  (setChildrenNodes_diverges (quietDetach_of_K4 hφ) (by intro i m; rw [hφ]; rfl) (fuel + 1) n xs w h).2
    (Nat.succ_ne_zero fuel)

end Anytree.Props.C03
