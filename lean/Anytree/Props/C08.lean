import Anytree.Lemmas.GlobCache
/-!
# C08 — Resolver.glob returns exactly the nodes a wildcard pattern denotes

The matcher is the wildcard relation `WMatch`; the compiled-pattern cache is unobservable; relaxed `glob` =
`Spec.denote`; strict `glob` returns the same list where literal components behind the first wildcard are
unambiguous (`LiteralUnique`, e.g. sibling-unique names), always a part of it, and raises only at a dead
end; without `..` the denoted list has no duplicates, without `**` too it is in pre-order.  The proofs are in `Lemmas/Glob` (cache-free
`globP`) and `Lemmas/GlobCache`.

`globM false` / `glob false` is the current code; `legacy = true` is the code before the repairs of D4 and D8
(header of `Model/Resolver.lean`).  `globM` works on the component list, `glob` on the path string.
-/
namespace Anytree.Props.C08
open Tree Str Resolver Spec
variable {α : Type}

/-- the backtracking matcher standing for `re.match('(?ms)' + translate(pat) + '\\Z', name)` decides
exactly: `*` any run of characters, `?` exactly one character, every other character — regex
metacharacters included — only itself, the whole name anchored -/
theorem match_iff_WMatch (ic : Bool) (pat name : List Char) :
    matchToks ic (translate pat) name = true ↔ WMatch ic pat name :=
  GlobL.match_iff_WMatch ic pat name

theorem cacheInv_nil : CacheInv [] := by intro e he; cases he

/-- the cache never holds more than `_MAXCACHE` entries (one, should `_MAXCACHE` be set to 0): whatever the value of
the constant - the statement does not depend on it -/
theorem matchC_bounded (ic : Bool) (k : Cache) (name pat : String)
    (h : k.length ≤ max Generated.maxCache 1) :
    (matchC ic k name pat).2.length ≤ max Generated.maxCache 1 := by
  unfold matchC
  cases hf : k.find? (fun e => e.1 == (pat, ic)) with
  | some e => exact h
  | none =>
    simp only [List.length_append, List.length_singleton]
    split
    · exact Nat.le_max_right ..
    · next hlt => exact Nat.le_trans (Nat.lt_of_not_le hlt) (Nat.le_max_left ..)

/-- `glob` with any well-formed cache state gives the result it gives with an empty cache, and leaves
a well-formed cache: the result never depends on earlier calls -/
theorem glob_cache_transparent (legacy : Bool) (c : Ctx α) (a : Addr) (path : String) (k : Cache)
    (h : CacheInv k) :
    (Resolver.glob legacy c a path k).1 = (Resolver.glob legacy c a path []).1 ∧
    CacheInv (Resolver.glob legacy c a path k).2 := by
  obtain ⟨h1, h2⟩ := GlobL.Tr.iff.mp (GlobL.glob_tr legacy c a path h)
  exact ⟨h1.trans (GlobL.Tr.iff.mp (GlobL.glob_tr legacy c a path cacheInv_nil)).1.symm, h2⟩

/-- C08, relaxed mode, on a component list: `__glob` never raises and returns exactly the nodes the
pattern denotes from `a` (`Spec.denote`), in that order -/
theorem globRelaxed_eq_denote (c : Ctx α) (hr : c.relax = true) (parts : List String) (a : Addr)
    (k : Cache) (h : CacheInv k) :
    (globM false c parts a k).1 = .ok (denote c parts a) := by
  rw [GlobL.globM_fst false c parts a h]
  exact GlobL.globP_relaxed c hr parts a

/-- needs a non-empty separator: with `sep = ""` every path "starts with" the separator but splits
into a single component, and the mirror then reports the missing root component as an error even in
relaxed mode (Python's `str.split('')` raises `ValueError`, so that case is outside the model) -/
theorem globRelaxed_eq_spec (c : Ctx α) (hr : c.relax = true) (hsep : c.sep ≠ "") (a : Addr)
    (path : String) :
    (Resolver.glob false c a path []).1 = .ok (globS c a path) := by
  rw [(GlobL.Tr.iff.mp (GlobL.glob_tr false c a path cacheInv_nil)).1]
  exact GlobL.globTopP_relaxed c hr hsep a path

/-- every literal (wildcard-free) component of `parts` names at most one child of any node -/
def LiteralUnique (c : Ctx α) (parts : List String) : Prop :=
  ∀ name ∈ parts, isWildcard name = false → ∀ b, (matching c b name).length ≤ 1

/-- the components that follow the first wildcard (`*`, `?`, `**`) component -/
abbrev afterWild : List String → List String := GlobL.afterWild

theorem LiteralUnique.afterWild {c : Ctx α} {parts : List String} (h : LiteralUnique c parts) :
    LiteralUnique c (afterWild parts) :=
  fun name hn => h name (GlobL.afterWild_subset parts name hn)

/-- sibling names pairwise different under `re.IGNORECASE`, the comparison `glob` itself makes -/
abbrev SiblingUniqueRe (c : Ctx α) : Prop := GlobL.SiblingUniqueRe c

/-- names no two siblings share under `re.IGNORECASE` make every literal component unambiguous, whatever
the characters of the names -/
theorem literalUnique_of_siblingUniqueRe (c : Ctx α) (hsu : SiblingUniqueRe c) (parts : List String) :
    LiteralUnique c parts := by
  intro name _ hw b
  have hnd : (matching c b name).Nodup :=
    (GlobL.matching_sublist c b name).nodup (ResolverLemmas.children_nodup c b)
  cases hm : matching c b name with
  | nil => exact Nat.zero_le _
  | cons x t =>
    -- every selected child carries the normal form of `name`, so all are `x`
    rw [hm] at hnd
    have hx := List.mem_filter.mp (hm ▸ List.mem_cons_self .. : x ∈ matching c b name)
    rcases nodup_all_eq hnd fun y hy => by
      have hy := List.mem_filter.mp (hm ▸ hy : y ∈ matching c b name)
      apply hsu b y x hy.1 hx.1
      rw [(GlobL.matchPure_literal_iff _ _ _ hw).mp hy.2,
        (GlobL.matchPure_literal_iff _ _ _ hw).mp hx.2] with h | h
    · cases h
    · rw [h]; exact Nat.le_refl _

/-- pairwise different sibling names under the comparison of `get` (`str.upper()`) make every literal
component unambiguous where `str.upper()` and `re.IGNORECASE` agree on the characters of the names
(`CaseAgree`: always without `ignorecase`, for ASCII names, for the regular alphabet; *not* for the
KELVIN/ANGSTROM/OHM signs — children `k` and `K` (U+212A) differ for `get` and both match the
component `k` of a `glob`).  The second argument of `CaseAgree` is the extra characters in play (those
of a path); `fun _ => False` means the names only. -/
theorem literalUnique_of_siblingUnique (c : Ctx α) (hsu : SiblingUnique c)
    (hca : CaseAgree c (fun _ => False)) (parts : List String) :
    LiteralUnique c parts :=
  literalUnique_of_siblingUniqueRe c ((GlobL.siblingUniqueRe_iff c hca).mpr hsu) parts

/-- the two notions of sibling-uniqueness coincide over case-regular names -/
theorem siblingUniqueRe_iff (c : Ctx α) (hca : CaseAgree c (fun _ => False)) :
    SiblingUniqueRe c ↔ SiblingUnique c := GlobL.siblingUniqueRe_iff c hca

/-- The statement needs an assumption: if a literal component matches two siblings and the remainder
fails below one of them, `__find` re-raises and the results below the other sibling are lost; an
enclosing wildcard or `**` component swallows that error, so the call succeeds with fewer nodes than
denoted (root with children `a`(→`b`) and `a`(leaf), pattern `**/a/b` or, one level up, `*/a/b`:
`glob` gives `[]`, the pattern denotes the node `b`).  It suffices that the literal components
*behind the first wildcard component* are unambiguous; `LiteralUnique c parts` or `SiblingUnique c`
imply that. -/
theorem globStrict_ok_eq_denote (c : Ctx α) (hr : c.relax = false) (parts : List String)
    (hu : LiteralUnique c (afterWild parts)) (a : Addr)
    (k : Cache) (h : CacheInv k) (l : List Addr) (hok : (globM false c parts a k).1 = .ok l) :
    l = denote c parts a := by
  rw [GlobL.globM_fst false c parts a h] at hok
  exact GlobL.globP_strict_ok c hr parts hu a l hok

/-- C08, strict mode over names no two siblings share as `get` compares them, where the two case
foldings agree on the characters of the names: a `__glob` that returns, returns exactly the denoted nodes -/
theorem globStrict_ok_eq_denote_of_siblingUnique (c : Ctx α) (hr : c.relax = false)
    (hsu : SiblingUnique c) (hca : CaseAgree c (fun _ => False)) (parts : List String) (a : Addr)
    (k : Cache) (h : CacheInv k) (l : List Addr) (hok : (globM false c parts a k).1 = .ok l) :
    l = denote c parts a :=
  globStrict_ok_eq_denote c hr parts (literalUnique_of_siblingUnique c hsu hca _) a k h l hok

/-- C08, strict mode over names no two siblings share under `re.IGNORECASE`: a `__glob` that returns,
returns exactly the denoted nodes, with no condition on the characters -/
theorem globStrict_ok_eq_denote_of_siblingUniqueRe (c : Ctx α) (hr : c.relax = false)
    (hsu : SiblingUniqueRe c) (parts : List String) (a : Addr)
    (k : Cache) (h : CacheInv k) (l : List Addr) (hok : (globM false c parts a k).1 = .ok l) :
    l = denote c parts a :=
  globStrict_ok_eq_denote c hr parts (literalUnique_of_siblingUniqueRe c hsu _) a k h l hok

/-- without any assumption on sibling names: every node strict `glob` returns is denoted -/
theorem globStrict_ok_subset_denote (c : Ctx α) (parts : List String) (a : Addr)
    (k : Cache) (h : CacheInv k) (l : List Addr) (hok : (globM false c parts a k).1 = .ok l) :
    ∀ x ∈ l, x ∈ denote c parts a := by
  rw [GlobL.globM_fst false c parts a h] at hok
  intro x hx
  apply GlobL.globP_subset c parts a x
  rw [hok]; exact hx

set_option linter.unusedVariables false in -- `hr` is in the statement and unused
/-- C08, strict mode: `__glob` raises only if some alternative it explores from `a` is a genuine dead
end (`Spec.hasDeadEnd`: a literal component without a matching child, or `..` at the root) -/
theorem globStrict_raises_only_at_dead_end (c : Ctx α) (hr : c.relax = false) (parts : List String)
    (a : Addr) (k : Cache) (h : CacheInv k) (e : RErr) (herr : (globM false c parts a k).1 = .error e) :
    hasDeadEnd c parts a = true := by
  rw [GlobL.globM_fst false c parts a h] at herr
  exact GlobL.globP_strict_dead c parts a e herr

/-- a pattern without `**` and `..` -/
def Plain (parts : List String) : Prop := ∀ p ∈ parts, p ≠ "**" ∧ p ≠ ".."

open GlobL ResolverLemmas in
/-- without `**` and `..` every denoted node lies below the start node, and the list is a sublist of
the pre-order of the start node's subtree -/
theorem denote_preorder (c : Ctx α) (parts : List String) (hp : Plain parts) (a : Addr)
    (hv : (sub c.r a).isSome = true) :
    List.Sublist (denote c parts a) ((Tree.addrs ((sub c.r a).getD c.r)).map (a ++ ·)) := by
  show (denote c parts a).Sublist (under c a)
  obtain ⟨t, h⟩ := Option.isSome_iff_exists.mp hv
  rw [under_eq c a t h]
  induction parts generalizing a t with
  | nil => exact (List.nil_sublist _).cons_cons a
  | cons p rem ih =>
    have ih := ih (fun q h => hp q (List.mem_cons_of_mem _ h))
    obtain ⟨hn1, hn2⟩ := hp p (List.mem_cons_self ..)
    rw [denote_cons]
    generalize hk : comp p = k
    cases k with
    | up => exact absurd (comp_up hk) hn2
    | stay => exact ih a hv t h
    | deep => exact absurd (comp_deep hk) hn1
    | named =>
      refine (sublist_flatMap _ _ (matching_sublist c a p) fun ch hm => ?_).cons a
      -- a child of a valid address is valid
      have hmem := (matching_sublist c a p).subset hm
      rw [children_eq c a t h, List.mem_map] at hmem
      obtain ⟨i, hi, rfl⟩ := hmem
      have hs := sub_child c.r a t h i (List.mem_range.mp hi)
      rw [under_eq c _ _ hs]
      exact ih _ (by rw [hs]; rfl) _ hs

open GlobL ResolverLemmas in
/-- no `..` at all: no duplicates (the general clause of the property — no `..` *after* a name,
wildcard or `**` component — reduces to this after the leading `..`/`.`/`''` steps, which only move
the single start node) -/
theorem denote_nodup (c : Ctx α) (parts : List String) (hp : ∀ p ∈ parts, p ≠ "..") (a : Addr)
    (_hv : (sub c.r a).isSome = true) : (denote c parts a).Nodup := by
  clear _hv -- in the statement and unused
  induction parts generalizing a with
  | nil => simp [denote]
  | cons p rem ih =>
    have hrem : ∀ q ∈ rem, q ≠ ".." := fun q h => hp q (List.mem_cons_of_mem _ h)
    have ih := ih hrem
    rw [denote_cons]
    generalize hk : comp p = k
    cases k with
    | up => exact absurd (comp_up hk) (hp _ (List.mem_cons_self ..))
    | stay => exact ih a
    | deep => exact nodup_dedup _
    | named =>
      refine List.pairwise_flatMap.mpr ⟨fun x _ => ih x,
        ((matching_sublist c a p).nodup (children_nodup c a)).imp_of_mem
          fun {x y} hx hy hxy z hzx w hzy hzw => ?_⟩
      -- two children of `a` that are both prefixes of `z` are equal
      subst hzw
      have hl : x.length = y.length := by
        rw [children_length c a x ((matching_sublist c a p).subset hx),
          children_length c a y ((matching_sublist c a p).subset hy)]
      exact hxy ((List.prefix_of_prefix_length_le (denote_prefix c rem hrem x z hzx)
        (denote_prefix c rem hrem y z hzy) (Nat.le_of_eq hl)).eq_of_length hl)

/-- leading `..`, `.` and `''` components just move the start node -/
theorem denote_leading (c : Ctx α) (p : String) (rest : List String) (a : Addr)
    (hp : p = ".." ∨ p = "." ∨ p = "") :
    denote c (p :: rest) a = (if p = ".." then (if a = [] then [] else denote c rest a.dropLast) else denote c rest a) := by
  rw [GlobL.denote_cons]; rcases hp with rfl | rfl | rfl <;> rfl

end Anytree.Props.C08
