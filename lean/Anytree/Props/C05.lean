import Anytree.Props.C06
import Anytree.Lemmas.Shape
/-!
# C05 — each iterator visits every node of the subtree exactly once in its defined order

With default arguments (`filter_` always true, `stop` never, `maxlevel = None`) the mirror of
each iterator equals the textbook traversal; every traversal is a permutation of the pre-order,
so all five enumerate the same nodes, each as often as it occurs (exactly once when payloads
are pairwise distinct — and every shape has such a labelling: its addresses).
-/
namespace Anytree.Props.C05
open Tree Iter Spec
variable {α : Type}

def allF : Tree α → Bool := fun _ => true

def noS : Tree α → Bool := fun _ => false

theorem admit_all (t : Tree α) : admitT noS none t = some (decorate t) := admitT_unrestricted t

theorem filter_allF (l : List (Tree α)) : l.filter allF = l := by simp [allF]

theorem filter_allF' : (List.filter (allF : Tree α → Bool)) = id := by
  funext l; simp [allF]

/-- C05 for `PreOrderIter(node)` with default arguments: it yields the node objects of the subtree in
pre-order.  `decorate t` labels each node with the subtree below it (the node object the iterator
yields), so `pre (decorate t)` is the pre-order list of node objects; likewise for the four below. -/
theorem preIter_eq (t : Tree α) : preIter allF noS none t = pre (decorate t) := by
  rw [C06.preIter_spec, preSpec, admit_all, optPre, filter_allF]

theorem postIter_eq (t : Tree α) : postIter allF noS none t = post (decorate t) := by
  rw [C06.postIter_spec, postSpec, admit_all, optPost, filter_allF]

theorem levelIter_eq (t : Tree α) : levelIter allF noS none t = levelOrder (decorate t) := by
  rw [C06.levelIter_spec, levelSpec, admit_all, optLevels, filter_allF, levelOrder]

theorem groupIter_eq (t : Tree α) : groupIter allF noS none t = levels (decorate t) := by
  rw [C06.groupIter_spec, groupSpec, admit_all, optLevels]
  simp [filter_allF']

theorem zigzagIter_eq (t : Tree α) :
    zigzagIter allF noS none t = zigzagSpec (levels (decorate t)) := by
  rw [C06.zigzagIter_spec, zigzagIterSpec, admit_all, optLevels]
  simp [filter_allF']

theorem group_flatten_eq_level (t : Tree α) :
    (groupIter allF noS none t).flatten = levelIter allF noS none t :=
  C06.group_flatten_eq_level _ _ _ _

theorem pre_decorate (t : Tree α) : (pre (decorate t)).map label = pre t := by
  rw [← pre_map, map_label_decorate]

theorem post_decorate (t : Tree α) : (post (decorate t)).map label = post t := by
  rw [← post_map, map_label_decorate]

theorem levels_decorate (t : Tree α) : (levels (decorate t)).map (List.map label) = levels t := by
  rw [← levels_map, map_label_decorate]

theorem pre_perm_post (t : Tree α) : (pre t).Perm (post t) := by
  induction t using induction_on with
  | h a cs ih =>
    rw [pre_eq_cons, post_eq_append]
    exact ((perm_flatMap_congr ih).cons a).trans (List.perm_append_singleton a _).symm

/-- the levels, cut at an arbitrary bound above the height: a permutation of the pre-order.  Below
the root the levels of the children are concatenated level by level, the pre-order child by child:
the two orders of one double concatenation. -/
theorem levels_perm : ∀ (t : Tree α) (n : Nat), height t + 1 ≤ n →
    ((List.range n).flatMap (fun k => atDepth k t)).Perm (pre t) := by
  refine induction_on fun a cs ih n hn => ?_
  obtain ⟨n', rfl⟩ := Nat.exists_eq_add_one_of_ne_zero (Nat.ne_zero_of_lt hn)
  rw [List.range_succ_eq_map, List.flatMap_cons, List.flatMap_map, atDepth_zero, pre_eq_cons]
  refine List.Perm.cons _ ?_
  simp only [Nat.succ_eq_add_one, atDepth_succ, kids_node]
  refine (flatMap_comm_perm _ cs fun k c => atDepth k c).trans (perm_flatMap_congr fun c hc => ?_)
  exact ih c hc n' (Nat.le_trans (height_lt_heightL hc) (Nat.le_of_succ_le_succ hn))

/-- the level order on the left, against the name: a permutation *of* the pre-order, as in `levels_perm` -/
theorem pre_perm_levelOrder (t : Tree α) : (levelOrder t).Perm (pre t) := by
  rw [levelOrder, levels, ← List.flatMap_def]
  exact levels_perm t _ (Nat.le_refl _)

theorem zigzag_flatten_perm (ls : List (List α)) : (zigzagSpec ls).flatten.Perm ls.flatten := by
  rw [← zzPairs_eq]
  induction ls using zzPairs.induct with
  | case1 => simp [zzPairs]
  | case2 a => simp [zzPairs]
  | case3 a b rest ih =>
    simp only [zzPairs, List.flatten_cons]
    exact List.Perm.append_left _ ((List.reverse_perm b).append ih)

/-- with pairwise distinct payloads, every node is yielded exactly once (pre-order shown; the others
follow from the permutation theorems) -/
theorem preIter_nodup (t : Tree α) (h : (pre t).Nodup) :
    ((preIter allF noS none t).map label).Nodup := by
  rw [preIter_eq, pre_decorate]; exact h

example : let t : Tree Nat := node 0 [node 1 [node 3 [], node 4 []], node 2 [node 5 []]]
    pre t = [0, 1, 3, 4, 2, 5] ∧ post t = [3, 4, 1, 5, 2, 0] ∧ levels t = [[0], [1, 2], [3, 4, 5]] ∧
    zigzagSpec (levels t) = [[0], [2, 1], [3, 4, 5]] ∧ (pre t).Nodup := by decide

end Anytree.Props.C05
