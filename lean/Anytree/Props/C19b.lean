import Anytree.Props.C19
import Anytree.Lemmas.CopyIso
/-!
# C19b — the graph-theoretic content of `copy.deepcopy` / `pickle` round trips

CPython's copier is trusted to rebuild exactly the objects reachable from the entry node, with fresh
identities and with every reference redirected to the corresponding rebuilt object.  As a model
function this is `copyForest s R` / `copyTargets tg R` with `R = reach s tg e` (`Lemmas/CopyIso`):
the rebuilt object number `i` is the copy of `R[i]`.

For a consistent original, an existing entry node and link targets that exist: the copy is a consistent
forest whose object `0` is the copy of the entry node; `i ↦ R[i]` is an isomorphism onto the reached part
(parents, ordered children, link targets, unfolded trees); the reached part is the whole tree of the entry
node and, without symlinks, nothing else (`mem_reach_iff_same_tree`); the copy depends on nothing outside
it (`copy_congr`).  `deepcopy_correct` puts it in one statement, all but these two named clauses.
-/
namespace Anytree.Props.C19b
open Attr
open Anytree.Props.C19

variable {s : Forest} {tg : Nat → Option Nat} {e : Nat}

theorem reach_lt (h : Inv s) (htg : ∀ x, x < s.n → ∀ t, tg x = some t → t < s.n) (he : e < s.n) :
    ∀ x ∈ reach s tg e, x < s.n :=
  reach_inv (· < s.n) (fun _ hx => nb_lt h htg hx) he

/-- C01 for an arbitrary duplicate-free selection `R`; the hypotheses "members exist" and "closed under
parent / children" are not used: a reference leaving `R` is dropped on both sides -/
theorem copyForest_inv_of_closed {R : List Nat} (h : Inv s) (hnd : R.Nodup)
    (_hlt : ∀ x ∈ R, x < s.n)
    (_hclp : ∀ x p, x ∈ R → s.parent x = some p → p ∈ R)
    (_hclc : ∀ x c, x ∈ R → c ∈ s.children x → c ∈ R) : Inv (copyForest s R) :=
  copyForest_inv h hnd

/-- the deep copy of a consistent tree is consistent -/
theorem copy_inv (h : Inv s) : Inv (copyForest s (reach s tg e)) :=
  copyForest_inv h (reach_nodup s tg e)

/-- the copy consists of exactly one fresh object per reached object (by construction of `copyForest`) -/
theorem copy_size : (copyForest s (reach s tg e)).n = (reach s tg e).length := rfl

/-- all references of the copy stay inside the copy: it shares no object with anything else -/
theorem copy_refs_inside :
    (∀ i j, (copyForest s (reach s tg e)).parent i = some j →
        i < (reach s tg e).length ∧ j < (reach s tg e).length) ∧
    (∀ i j, j ∈ (copyForest s (reach s tg e)).children i →
        i < (reach s tg e).length ∧ j < (reach s tg e).length) ∧
    (∀ i j, copyTargets tg (reach s tg e) i = some j →
        i < (reach s tg e).length ∧ j < (reach s tg e).length) :=
  ⟨fun _ _ h => by rw [copyForest_parent] at h; exact renameRef_lt h, fun _ _ => copy_child_lt,
    fun _ _ h => by rw [copyTargets_eq] at h; exact renameRef_lt h⟩

/-- the object returned by the copier (the copy of the entry node) is object `0` -/
theorem copy_entry : pos (reach s tg e) e = some 0 ∧ (reach s tg e)[0]? = some e :=
  ⟨pos_reach_entry s tg e, reach_getElem?_zero s tg e⟩

/-- `pos R` and `i ↦ R[i]` are mutually inverse bijections between the reached objects and the
fresh identities -/
theorem copy_bijection (x i : Nat) :
    pos (reach s tg e) x = some i ↔ (reach s tg e)[i]? = some x :=
  pos_eq_some_iff (reach_nodup s tg e)

theorem copy_covers (x : Nat) : x ∈ reach s tg e ↔ ∃ i : Nat, (reach s tg e)[i]? = some x := by
  constructor
  · intro hx; obtain ⟨i, _, hi⟩ := pos_of_mem hx; exact ⟨i, hi⟩
  · rintro ⟨i, hi⟩; exact List.mem_of_getElem? hi

/-- isomorphic, parents: the parent of a copy is the copy of the original's parent -/
theorem copy_parent_iff {i x j : Nat} (hi : (reach s tg e)[i]? = some x) :
    (copyForest s (reach s tg e)).parent i = some j ↔
      ∃ p, s.parent x = some p ∧ (reach s tg e)[j]? = some p := by
  rw [copyForest_parent]; exact renameRef_eq_some_iff (reach_nodup s tg e) hi

theorem copy_parent_none_iff (h : Inv s) (htg : ∀ x, x < s.n → ∀ t, tg x = some t → t < s.n)
    (he : e < s.n) {i x : Nat} (hi : (reach s tg e)[i]? = some x) :
    (copyForest s (reach s tg e)).parent i = none ↔ s.parent x = none :=
  copy_parent_eq_none_iff (reach_closed h htg he).2.parent hi

/-- isomorphic, children: the children of a copy, read back, are the original's children in their order -/
theorem copy_children_eq (h : Inv s) (htg : ∀ x, x < s.n → ∀ t, tg x = some t → t < s.n)
    (he : e < s.n) {i x : Nat} (hi : (reach s tg e)[i]? = some x) :
    ((copyForest s (reach s tg e)).children i).map (fun j => (reach s tg e)[j]!) = s.children x :=
  copy_children_map (reach_closed h htg he).2.children hi

theorem copy_children_eq? (h : Inv s) (htg : ∀ x, x < s.n → ∀ t, tg x = some t → t < s.n)
    (he : e < s.n) {i x : Nat} (hi : (reach s tg e)[i]? = some x) :
    ((copyForest s (reach s tg e)).children i).map (fun j => (reach s tg e)[j]?) =
      (s.children x).map some :=
  copy_children_map? (reach_closed h htg he).2.children hi

/-- a link of the copy points at the copy of the original link's target -/
theorem copy_target_iff {i x j : Nat} (hi : (reach s tg e)[i]? = some x) :
    copyTargets tg (reach s tg e) i = some j ↔
      ∃ t, tg x = some t ∧ (reach s tg e)[j]? = some t :=
  renameRef_eq_some_iff (reach_nodup s tg e) hi

/-- … and no link loses its target -/
theorem copy_target_total (h : Inv s) (htg : ∀ x, x < s.n → ∀ t, tg x = some t → t < s.n)
    (he : e < s.n) {i x t : Nat} (hi : (reach s tg e)[i]? = some x) (ht : tg x = some t) :
    ∃ j, copyTargets tg (reach s tg e) i = some j ∧ (reach s tg e)[j]? = some t := by
  obtain ⟨j, hj, hjt⟩ := pos_of_mem ((reach_closed h htg he).2.target x t (List.mem_of_getElem? hi) ht)
  exact ⟨j, (copy_target_iff hi).mpr ⟨t, ht, hjt⟩, hjt⟩

theorem copy_target_none_iff (h : Inv s) (htg : ∀ x, x < s.n → ∀ t, tg x = some t → t < s.n)
    (he : e < s.n) {i x : Nat} (hi : (reach s tg e)[i]? = some x) :
    copyTargets tg (reach s tg e) i = none ↔ tg x = none :=
  renameRef_eq_none_iff (reach_closed h htg he).2.target hi

theorem copy_up_eq (h : Inv s) (htg : ∀ x, x < s.n → ∀ t, tg x = some t → t < s.n)
    (he : e < s.n) (k : Nat) {i x : Nat} (hi : (reach s tg e)[i]? = some x) :
    (copyForest s (reach s tg e)).up k i = (s.up k x).bind (pos (reach s tg e)) :=
  copy_up (reach_nodup s tg e) (reach_closed h htg he).2.parent k hi

theorem conn_up {y : Nat} (hy : Conn s tg e y) (k : Nat) {r : Nat} (hk : s.up k y = some r) :
    Conn s tg e r := by
  fun_induction Forest.up s k y with
  | case1 y => cases hk; exact hy
  | case2 k y hp => cases hk
  | case3 k y p hp ih => exact ih (hy.parent hp) hk

theorem conn_down (h : Inv s) {r : Nat} (hr : Conn s tg e r) (k : Nat) {x : Nat}
    (hk : s.up k x = some r) : Conn s tg e x := by
  fun_induction Forest.up s k x with
  | case1 x => cases hk; exact hr
  | case2 k x hp => cases hk
  | case3 k x p hp ih => exact (ih hk).child ((h.bidir x p).mp hp)

/-- closure: every node of the entry node's tree is copied -/
theorem same_tree_mem_reach (h : Inv s) (htg : ∀ x, x < s.n → ∀ t, tg x = some t → t < s.n)
    (he : e < s.n) {x : Nat} (hx : ∃ r k k', s.up k e = some r ∧ s.up k' x = some r) :
    x ∈ reach s tg e := by
  obtain ⟨r, k, k', hke, hkx⟩ := hx
  exact reach_complete s h tg htg e he x (conn_down h (conn_up Conn.refl k hke) k' hkx)

/-- minimality: without symlinks the copy contains the entry node's tree and nothing else -/
theorem mem_reach_iff_same_tree (h : Inv s) (he : e < s.n) (x : Nat) :
    x ∈ reach s (fun _ => none) e ↔ ∃ r k k', s.up k e = some r ∧ s.up k' x = some r := by
  constructor
  · intro hx
    obtain ⟨r, ⟨k, hk⟩, ⟨k', hk'⟩, _⟩ :=
      same_tree_of_conn s h e x (reach_sound s _ e x hx)
    exact ⟨r, k, k', hk, hk'⟩
  · exact same_tree_mem_reach h (fun _ _ _ ht => by cases ht) he

/-- minimality in general: whatever is copied is connected to the entry node by references -/
theorem copy_only_connected {i x : Nat} (hi : (reach s tg e)[i]? = some x) : Conn s tg e x :=
  reach_sound s tg e x (List.mem_of_getElem? hi)

/-- for every copied node: the tree below the copy, read back through `i ↦ R[i]`, is the tree below
the original -/
theorem copy_shape (h : Inv s) (htg : ∀ x, x < s.n → ∀ t, tg x = some t → t < s.n)
    (he : e < s.n) (fuel : Nat) {i x : Nat} (hi : (reach s tg e)[i]? = some x) :
    ((copyForest s (reach s tg e)).toTree fuel i).map (fun j => (reach s tg e)[j]!) =
      s.toTree fuel x :=
  copy_toTree (reach_closed h htg he).2.children fuel hi

/-- in particular below the returned object -/
theorem copy_shape_entry (h : Inv s) (htg : ∀ x, x < s.n → ∀ t, tg x = some t → t < s.n)
    (he : e < s.n) (fuel : Nat) :
    ((copyForest s (reach s tg e)).toTree fuel 0).map (fun j => (reach s tg e)[j]!) =
      s.toTree fuel e :=
  copy_shape h htg he fuel (reach_getElem?_zero s tg e)

/-- the root of the copied entry node is the copy of the entry node's root, at the same height -/
theorem copy_root (h : Inv s) (htg : ∀ x, x < s.n → ∀ t, tg x = some t → t < s.n)
    (he : e < s.n) {k r : Nat} (hk : s.up k e = some r) (hr : s.parent r = none) :
    ∃ j, (copyForest s (reach s tg e)).up k 0 = some j ∧ (reach s tg e)[j]? = some r ∧
      (copyForest s (reach s tg e)).parent j = none := by
  obtain ⟨j, hj, hjr⟩ := pos_of_mem (reach_complete s h tg htg e he r (conn_up Conn.refl k hk))
  refine ⟨j, ?_, hjr, (copy_parent_none_iff h htg he hjr).mpr hr⟩
  rw [copy_up_eq h htg he k (reach_getElem?_zero s tg e), hk, Option.bind_some, hj]

/-- the *whole* tree of the copy (from its root) is the whole tree of the original -/
theorem copy_shape_root (h : Inv s) (htg : ∀ x, x < s.n → ∀ t, tg x = some t → t < s.n)
    (he : e < s.n) {k r : Nat} (hk : s.up k e = some r) (hr : s.parent r = none) (fuel : Nat) :
    ∃ j, (copyForest s (reach s tg e)).up k 0 = some j ∧
      (copyForest s (reach s tg e)).parent j = none ∧
      ((copyForest s (reach s tg e)).toTree fuel j).map (fun j => (reach s tg e)[j]!) =
        s.toTree fuel r := by
  obtain ⟨j, hj, hjr, hjp⟩ := copy_root h htg he hk hr
  exact ⟨j, hj, hjp, copy_shape h htg he fuel hjr⟩

/-- the copy is determined by the reached part of the original alone: a forest that agrees with `s`
on the reached objects (e.g. `s` after any change to objects outside the entry node's component)
has the same copy -/
theorem copy_congr {s' : Forest} {R : List Nat}
    (hp : ∀ x ∈ R, s'.parent x = s.parent x) (hc : ∀ x ∈ R, s'.children x = s.children x) :
    copyForest s' R = copyForest s R := by
  unfold copyForest
  congr 1
  · funext i
    cases hi : R[i]? with
    | none => rfl
    | some x => simp [hp x (List.mem_of_getElem? hi)]
  · funext i
    cases hi : R[i]? with
    | none => rfl
    | some x => simp [hc x (List.mem_of_getElem? hi)]

theorem copyTargets_congr {tg' : Nat → Option Nat} {R : List Nat}
    (ht : ∀ x ∈ R, tg' x = tg x) : copyTargets tg' R = copyTargets tg R := by
  funext i
  unfold copyTargets
  cases hi : R[i]? with
  | none => rfl
  | some x => simp [ht x (List.mem_of_getElem? hi)]

/-- C19, graph-theoretic content, in one statement: copying the reached set `R = reach s tg e` of a
consistent forest with fresh identities yields a consistent forest `c` of `R.length` objects whose
object `0` is the copy of the entry node, such that `i ↦ R[i]` preserves and reflects parents,
ordered children and link targets, maps unfolded trees to unfolded trees, and whose image is the
whole tree of the entry node (plus whatever is reachable through link targets). -/
theorem deepcopy_correct (h : Inv s) (htg : ∀ x, x < s.n → ∀ t, tg x = some t → t < s.n)
    (he : e < s.n) :
    let R := reach s tg e
    let c := copyForest s R
    let ct := copyTargets tg R
    Inv c ∧ c.n = R.length ∧ R.Nodup ∧ R[0]? = some e ∧
    (∀ i x, R[i]? = some x →
      (∀ j, c.parent i = some j ↔ ∃ p, s.parent x = some p ∧ R[j]? = some p) ∧
      (c.parent i = none ↔ s.parent x = none) ∧
      (c.children i).map (fun j => R[j]!) = s.children x ∧
      (∀ j, ct i = some j ↔ ∃ t, tg x = some t ∧ R[j]? = some t) ∧
      (ct i = none ↔ tg x = none) ∧
      (∀ fuel, (c.toTree fuel i).map (fun j => R[j]!) = s.toTree fuel x)) ∧
    (∀ x, (∃ r k k', s.up k e = some r ∧ s.up k' x = some r) → x ∈ R) ∧
    (∀ x, x ∈ R → Conn s tg e x ∧ x < s.n) := by
  refine ⟨copy_inv h, rfl, reach_nodup s tg e, reach_getElem?_zero s tg e, ?_, ?_, ?_⟩
  · intro i x hi
    exact ⟨fun j => copy_parent_iff hi, copy_parent_none_iff h htg he hi,
      copy_children_eq h htg he hi, fun j => copy_target_iff hi,
      copy_target_none_iff h htg he hi, fun fuel => copy_shape h htg he fuel hi⟩
  · intro x hx; exact same_tree_mem_reach h htg he hx
  · intro x hx; exact ⟨reach_sound s tg e x hx, reach_lt h htg he x hx⟩

end Anytree.Props.C19b
