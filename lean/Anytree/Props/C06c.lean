import Anytree.Props.C06
/-!
# C06, `filter_` composes: filtering twice = filtering by the conjunction

`filter_` is applied to what `stop`/`maxlevel` admit and to nothing else, so for all five iterators
iterating with `filter_ = F ∧ G` equals iterating with `filter_ = F` and discarding afterwards what
`G` rejects (group-wise for the two grouped iterators), under every `stop` and `maxlevel`; in
particular every filtered iteration is the unfiltered one with the rejected nodes dropped.
-/
namespace Anytree.Props.C06c
open Tree Iter Spec
variable {α : Type}

def andF (F G : Tree α → Bool) : Tree α → Bool := fun x => F x && G x

theorem filter_andF (F G : Tree α → Bool) (l : List (Tree α)) :
    l.filter (andF F G) = (l.filter F).filter G := by
  unfold andF; simp [List.filter_filter, Bool.and_comm]

theorem zigzagSpec_map_filter {β : Type} (G : β → Bool) (ls : List (List β)) :
    zigzagSpec (ls.map (List.filter G)) = (zigzagSpec ls).map (List.filter G) := by
  rw [← zzPairs_eq, ← zzPairs_eq]
  induction ls using zzPairs.induct with
  | case1 => simp [zzPairs]
  | case2 a => simp [zzPairs]
  | case3 a b rest ih => simp [zzPairs, ih, List.filter_reverse]

theorem preIter_and (F G S : Tree α → Bool) (m : Option Int) (t : Tree α) :
    preIter (andF F G) S m t = (preIter F S m t).filter G := by
  simp only [C06.preIter_spec, preSpec, filter_andF]

theorem postIter_and (F G S : Tree α → Bool) (m : Option Int) (t : Tree α) :
    postIter (andF F G) S m t = (postIter F S m t).filter G := by
  simp only [C06.postIter_spec, postSpec, filter_andF]

theorem levelIter_and (F G S : Tree α → Bool) (m : Option Int) (t : Tree α) :
    levelIter (andF F G) S m t = (levelIter F S m t).filter G := by
  simp only [C06.levelIter_spec, levelSpec, filter_andF]

theorem groupIter_and (F G S : Tree α → Bool) (m : Option Int) (t : Tree α) :
    groupIter (andF F G) S m t = (groupIter F S m t).map (List.filter G) := by
  simp only [C06.groupIter_spec, groupSpec, List.map_map]
  congr 1; funext l; simp [filter_andF]

theorem zigzagIter_and (F G S : Tree α → Bool) (m : Option Int) (t : Tree α) :
    zigzagIter (andF F G) S m t = (zigzagIter F S m t).map (List.filter G) := by
  simp only [C06.zigzagIter_spec, zigzagIterSpec, ← zigzagSpec_map_filter, List.map_map]
  congr 2; funext l; simp [filter_andF]

/-- a filtered iteration is the unfiltered one (same `stop`, same `maxlevel`) with the rejected nodes dropped -/
theorem preIter_filter (F S : Tree α → Bool) (m : Option Int) (t : Tree α) :
    preIter F S m t = (preIter (fun _ => true) S m t).filter F :=
  preIter_and (fun _ => true) F S m t

theorem postIter_filter (F S : Tree α → Bool) (m : Option Int) (t : Tree α) :
    postIter F S m t = (postIter (fun _ => true) S m t).filter F :=
  postIter_and (fun _ => true) F S m t

theorem levelIter_filter (F S : Tree α → Bool) (m : Option Int) (t : Tree α) :
    levelIter F S m t = (levelIter (fun _ => true) S m t).filter F :=
  levelIter_and (fun _ => true) F S m t

example : let t : Tree Nat := node 0 [node 1 [node 3 [], node 4 []], node 2 [node 5 []]]
    let F : Tree Nat → Bool := fun x => !x.kids.isEmpty
    let G : Tree Nat → Bool := fun x => x.label != 1
    ((t.decorate.pre).filter (andF F G)).map label = [0, 2] := by decide

end Anytree.Props.C06c
