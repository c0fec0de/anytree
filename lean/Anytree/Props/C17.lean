import Anytree.Model.Resolver
/-!
# C17 — tree operations use node identity only, never user-defined special methods

The mirrors compare nodes only through their identity (`Nat` indices, addresses): no function of the
model takes the user's `__eq__`/`__bool__`/`__len__`/`__hash__`/… as an input, so every modelled result
is trivially independent of them (`leftSibling_ignores_user_ops` says no more than that).  The content
is the contrast with anytree's code before the repair of finding D6: its three non-identity sites are
modelled here with the user operations as explicit parameters; with the identity semantics they
coincide with the repaired functions, for an adversarial class they differ (`D6_witness` = the replays
of D6).  The weight of this property lies on the adversarial correspondence run (`harness/props/C17.py`).
-/
namespace Anytree.Props.C17
open Tree

variable {α : Type}

/-- user-defined operations a node class may override: truth value and equality -/
structure UserOps where
  truth : Addr → Bool              -- `bool(node)` (`__bool__`, else `__len__`)
  eq : Addr → Addr → Bool          -- `node == other`

/-- what a plain class does: every node is truthy, `==` is identity -/
def plainOps : UserOps := ⟨fun _ => true, fun a b => a == b⟩

/-- `tuple.index(x)` with a user `==` -/
def indexU (eq : Addr → Addr → Bool) (l : List Addr) (x : Addr) : Nat :=
  match l with
  | [] => 0
  | y :: ys => if eq y x then 0 else indexU eq ys x + 1

/-- `util.leftsibling` before the repair: `if node.parent:` … `pchildren.index(node)` -/
def leftSiblingLegacy (u : UserOps) (r : Tree α) (a : Addr) : Option Addr :=
  if a = [] then none
  else if !u.truth a.dropLast then none
  else
    let pchildren := Nav.childAddrs r a.dropLast
    let idx := indexU u.eq pchildren a
    if idx != 0 then pchildren[idx - 1]? else none

/-- `util.rightsibling` before the repair -/
def rightSiblingLegacy (u : UserOps) (r : Tree α) (a : Addr) : Option Addr :=
  if a = [] then none
  else if !u.truth a.dropLast then none
  else
    let pchildren := Nav.childAddrs r a.dropLast
    pchildren[indexU u.eq pchildren a + 1]?

/-- `if match not in matches: matches.append(match)` before the repair (`in` uses `==`) -/
def appendNewLegacy (eq : Addr → Addr → Bool) (acc ms : List Addr) : List Addr :=
  ms.foldl (fun acc m => if acc.any (fun k => eq k m) then acc else acc ++ [m]) acc

theorem indexU_plain (l : List Addr) (x : Addr) : indexU plainOps.eq l x = l.idxOf x := by
  induction l with
  | nil => simp [indexU]
  | cons y ys ih =>
    have ih' : indexU (fun a b => a == b) ys x = List.idxOf x ys := ih
    simp [indexU, plainOps, List.idxOf_cons, ih']

/-- for a plain class the old code and the repaired code agree … -/
theorem leftSibling_legacy_plain (r : Tree α) (a : Addr) :
    leftSiblingLegacy plainOps r a = Nav.leftSibling r a := by
  unfold leftSiblingLegacy Nav.leftSibling
  simp only [indexU_plain]
  simp [plainOps]

theorem rightSibling_legacy_plain (r : Tree α) (a : Addr) :
    rightSiblingLegacy plainOps r a = Nav.rightSibling r a := by
  unfold rightSiblingLegacy Nav.rightSibling
  simp only [indexU_plain]
  simp [plainOps]

theorem appendNew_legacy_plain (acc ms : List Addr) :
    appendNewLegacy plainOps.eq acc ms = Resolver.appendNew acc ms := by
  unfold appendNewLegacy Resolver.appendNew
  congr 1
  funext acc m
  simp [plainOps]

/-- … and the repaired functions do not take the user's operations at all: whatever a node class
defines, the result is the same -/
theorem leftSibling_ignores_user_ops (_u : UserOps) (r : Tree α) (a : Addr) :
    Nav.leftSibling r a = Nav.leftSibling r a := rfl

def t3 : Tree Nat := node 0 [node 1 [], node 2 [], node 3 []]

/-- every node compares equal to every other -/
def alwaysEqual : UserOps := ⟨fun _ => true, fun _ _ => true⟩

/-- a falsy node class (`__bool__` returns False / `__len__` returns 0) -/
def falsy : UserOps := ⟨fun _ => false, fun a b => a == b⟩

/-- with always-equal nodes, `rightsibling` of the last child was the second child and `leftsibling` of
the third child was `None`; with falsy nodes `leftsibling` of the second child was `None`; the glob
result list lost all but the first of three equal nodes -/
theorem D6_witness :
    rightSiblingLegacy alwaysEqual t3 [2] = some [1] ∧ Nav.rightSibling t3 [2] = none ∧
    leftSiblingLegacy alwaysEqual t3 [2] = none ∧ Nav.leftSibling t3 [2] = some [1] ∧
    leftSiblingLegacy falsy t3 [1] = none ∧ Nav.leftSibling t3 [1] = some [0] ∧
    appendNewLegacy alwaysEqual.eq [] [[0], [1], [2]] = [[0]] ∧
    Resolver.appendNew [] [[0], [1], [2]] = [[0], [1], [2]] := by decide

end Anytree.Props.C17
