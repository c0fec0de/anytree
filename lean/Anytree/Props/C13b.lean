import Anytree.Props.C13
/-!
# C12/C13 — the default identifiers are *distinct per node* and cover every node mentioned

`dot_unique_eq_pure` / `mermaid_default_eq_pure` say that the stateful default naming emits the lines
of the pure naming read off the final id map, and that the map only grows and stays well-formed.
"Distinct per node" needs two more facts, proved here: every node named in the output has an entry
in the final map (so its printed name is `fmt` of a first-use counter value and not the `getD 0`
default), and the printed names of two nodes with different keys differ.
-/
namespace Anytree.Props.C13b
open Tree Export Spec Anytree.Props.C12
variable {α κ : Type}

/-- value of one lower-case hex digit character (left inverse of `Nat.digitChar` below 16) -/
def hexVal (c : Char) : Nat := if c.toNat < 58 then c.toNat - 48 else c.toNat - 87

theorem hexVal_digitChar : ∀ d, d < 16 → hexVal (Nat.digitChar d) = d := by decide

/-- Horner evaluation is a left inverse of `Nat.toDigits b` for every base `1 < b ≤ 16` -/
theorem foldl_toDigits {b : Nat} (hb : 1 < b) (hb' : b ≤ 16) (n : Nat) :
    (Nat.toDigits b n).foldl (fun s c => b * s + hexVal c) 0 = n := by
  induction n using Nat.base_induction b hb with
  | single m hm =>
    rw [Nat.toDigits_of_lt_base hm, List.foldl_cons, List.foldl_nil,
      hexVal_digitChar m (Nat.lt_of_lt_of_le hm hb'), Nat.mul_zero, Nat.zero_add]
  | digit m k hk hm ih =>
    rw [← Nat.toDigits_append_toDigits hb hm hk, List.foldl_append, ih,
      Nat.toDigits_of_lt_base hk, List.foldl_cons, List.foldl_nil,
      hexVal_digitChar k (Nat.lt_of_lt_of_le hk hb')]

theorem toDigits_injective {b : Nat} (hb : 1 < b) (hb' : b ≤ 16) (x y : Nat)
    (h : Nat.toDigits b x = Nat.toDigits b y) : x = y := by
  rw [← foldl_toDigits hb hb' x, h, foldl_toDigits hb hb' y]

/-- `"N" ++ toString n` is injective -/
theorem mermaidFmt_injective (a b : Nat) (h : "N" ++ toString a = "N" ++ toString b) : a = b := by
  rw [String.append_right_inj, Nat.toString_eq_ofList_toDigits, Nat.toString_eq_ofList_toDigits,
    String.ofList_inj] at h
  exact toDigits_injective (by decide) (by decide) a b h

/-- Python's `hex` is injective -/
theorem pyHex_injective (a b : Nat) (h : pyHex a = pyHex b) : a = b := by
  unfold pyHex hexDigits at h
  rw [String.append_right_inj, String.ofList_inj] at h
  exact toDigits_injective (by decide) (by decide) a b h

theorem finalName_distinct [DecidableEq κ] (fmt : Nat → String)
    (hfmt : ∀ a b, fmt a = fmt b → a = b) (st : IdMap κ) (hwf : IdMap.WF st) (key : Tree α → κ)
    (n n' : Tree α) (h1 : (st.lookup (key n)).isSome = true)
    (h2 : (st.lookup (key n')).isSome = true) (hk : key n ≠ key n') :
    finalName fmt st key n ≠ finalName fmt st key n' := by
  obtain ⟨a, ha⟩ := Option.isSome_iff_exists.mp h1
  obtain ⟨b, hb⟩ := Option.isSome_iff_exists.mp h2
  intro he
  simp only [finalName, ha, hb, Option.getD_some] at he
  have hab := hfmt a b he
  subst hab
  exact hk (lookup_injective st hwf _ _ a ha hb)

/-- after one Mermaid iteration with the default naming every declared node has an identifier -/
theorem mermaid_declared_have_ids [DecidableEq κ] (c : MermaidCfg α κ) (key : Tree α → κ) (t : Tree α)
    (st : IdMap κ) (n : Tree α) (hn : n ∈ declared c.filter c.stop c.maxlevel t) :
    ((merIter false { c with nodename := mermaidName key } t st).2.lookup (key n)).isSome = true := by
  rw [merIter_gen, mermaidName_eq]
  simp only [(genIter_ctr ..).1]
  exact visit_isSome key (List.mem_append_left _ (by rw [C06.preIter_spec]; exact hn)) st

/-- … and two declared nodes with different keys (`id(node)`) are printed under different names -/
theorem mermaid_default_names_distinct [DecidableEq κ] (c : MermaidCfg α κ) (key : Tree α → κ)
    (t : Tree α) (st : IdMap κ) (hwf : IdMap.WF st) (n n' : Tree α)
    (hn : n ∈ declared c.filter c.stop c.maxlevel t) (hn' : n' ∈ declared c.filter c.stop c.maxlevel t)
    (hk : key n ≠ key n') :
    let r := merIter false { c with nodename := mermaidName key } t st
    finalN r.2 key n ≠ finalN r.2 key n' := by
  intro r
  exact finalName_distinct (fun n => "N" ++ toString n) mermaidFmt_injective r.2
    ((C13.mermaid_default_eq_pure c key t st).2.2 hwf) key n n'
    (mermaid_declared_have_ids c key t st n hn) (mermaid_declared_have_ids c key t st n' hn') hk

/-- every Mermaid edge joins two declared nodes: `C12.edge_ends_declared`, restated here because
`edgePairs` is the edge set `merLinesS` is built from -/
theorem mermaid_edges_between_declared (F S : Tree α → Bool) (m : Option Int) (t : Tree α)
    (pc : Tree α × Tree α) (h : pc ∈ edgePairs F S m t) :
    pc.1 ∈ declared F S m t ∧ pc.2 ∈ declared F S m t :=
  edge_ends_declared F S m t pc h

/-- after one UniqueDotExporter iteration every declared node has an identifier -/
theorem dot_declared_have_ids [DecidableEq κ] (c : DotCfg α κ) (key : Tree α → κ) (t : Tree α)
    (st : IdMap κ) (n : Tree α) (hn : n ∈ declared c.filter c.stop c.maxlevel t) :
    ((dotIter false { c with nodename := uniqueName key } t st).2.lookup (key n)).isSome = true := by
  rw [dotIter_gen, uniqueName_eq]
  simp only [(genIter_ctr ..).1]
  exact visit_isSome key (List.mem_append_left _ (by rw [C06.preIter_spec]; exact hn)) st

/-- … so has every end of an emitted edge (including, finding D3, children that satisfy `stop`) -/
theorem dot_edge_ends_have_ids [DecidableEq κ] (c : DotCfg α κ) (key : Tree α → κ) (t : Tree α)
    (st : IdMap κ) (pc : Tree α × Tree α)
    (h : pc ∈ edgePairsNoStopRecheck c.filter c.stop c.maxlevel t) :
    let r := dotIter false { c with nodename := uniqueName key } t st
    (r.2.lookup (key pc.1)).isSome = true ∧ (r.2.lookup (key pc.2)).isSome = true := by
  simp only [edgePairsNoStopRecheck, List.mem_flatMap, List.mem_map] at h
  obtain ⟨p, hp, ch, hch, rfl⟩ := h
  rw [dotIter_gen, uniqueName_eq]
  simp only [(genIter_ctr ..).1]
  exact visit_isSome_edge key (by rw [C06.preIter_spec, edgeMax_false]; exact hp) hch st

/-- two nodes with identifiers and different keys are printed under different names, e.g. the ends of
emitted edges (`dot_edge_ends_have_ids`) -/
theorem dot_unique_names_distinct_of_ids [DecidableEq κ] (c : DotCfg α κ) (key : Tree α → κ)
    (t : Tree α) (st : IdMap κ) (hwf : IdMap.WF st) (n n' : Tree α) :
    let r := dotIter false { c with nodename := uniqueName key } t st
    (r.2.lookup (key n)).isSome = true → (r.2.lookup (key n')).isSome = true → key n ≠ key n' →
    finalHex r.2 key n ≠ finalHex r.2 key n' := by
  intro r h1 h2 hk
  exact finalName_distinct pyHex pyHex_injective r.2
    ((dot_unique_eq_pure c key t st).2.2 hwf) key n n' h1 h2 hk

/-- two declared nodes with different keys are printed under different names (declared nodes have
identifiers: `dot_declared_have_ids`) -/
theorem dot_unique_names_distinct [DecidableEq κ] (c : DotCfg α κ) (key : Tree α → κ)
    (t : Tree α) (st : IdMap κ) (hwf : IdMap.WF st) (n n' : Tree α)
    (hn : n ∈ declared c.filter c.stop c.maxlevel t) (hn' : n' ∈ declared c.filter c.stop c.maxlevel t)
    (hk : key n ≠ key n') :
    let r := dotIter false { c with nodename := uniqueName key } t st
    finalHex r.2 key n ≠ finalHex r.2 key n' :=
  dot_unique_names_distinct_of_ids c key t st hwf n n' (dot_declared_have_ids c key t st n hn)
    (dot_declared_have_ids c key t st n' hn') hk

def exTree : Tree Nat := node 0 [node 1 [], node 2 []]
def exKey : Tree Nat → Nat := fun n => n.label
def exMer : MermaidCfg Nat Nat :=
  { graph := "graph", name := "TD", options := [], indent := 0,
    nodename := NameFn.pure (fun _ => ""), nodefunc := fun _ => "",
    edgefunc := fun _ _ => "-->", filter := fun _ => true, stop := fun _ => false,
    maxlevel := none }
def exDot : DotCfg Nat Nat :=
  { graph := "digraph", name := "tree", options := [], indent := 4,
    nodename := NameFn.pure (fun _ => ""), nodeattr := fun _ => none, edgeattr := fun _ _ => none,
    edgetype := fun _ _ => "->", filter := fun _ => true, stop := fun n => n.label == 2,
    maxlevel := none }

theorem exMer_declared :
    declared exMer.filter exMer.stop exMer.maxlevel exTree = [exTree, node 1 [], node 2 []] := by
  rfl
theorem exDot_declared :
    declared exDot.filter exDot.stop exDot.maxlevel exTree = [exTree, node 1 []] := by
  rfl
theorem exDot_edges :
    edgePairsNoStopRecheck exDot.filter exDot.stop exDot.maxlevel exTree =
      [(exTree, node 1 []), (exTree, node 2 [])] := by
  rfl
theorem exWF : IdMap.WF ([] : IdMap Nat) := ⟨rfl, List.nodup_nil⟩

/-- Mermaid: root and first child are declared, have different keys, so get different names -/
example :
    let r := merIter false { exMer with nodename := mermaidName exKey } exTree []
    (r.2.lookup (exKey (node 2 []))).isSome = true ∧
    finalN r.2 exKey exTree ≠ finalN r.2 exKey (node 1 []) :=
  ⟨mermaid_declared_have_ids exMer exKey exTree [] (node 2 []) (by rw [exMer_declared]; simp),
   mermaid_default_names_distinct exMer exKey exTree [] exWF exTree (node 1 [])
    (by rw [exMer_declared]; simp) (by rw [exMer_declared]; simp) (by decide)⟩

/-- … and this is what the run really produces (kernel-checked) -/
example :
    merIter false { exMer with nodename := mermaidName exKey } exTree [] =
      (["graph TD", "N0", "N1", "N2", "N0-->N1", "N0-->N2"], [(0, 0), (1, 1), (2, 2)]) := rfl

/-- DOT: node `2` satisfies `stop`, is not declared, but is the end of an emitted edge (finding D3)
and so has an identifier that differs from the root's -/
example :
    let r := dotIter false { exDot with nodename := uniqueName exKey } exTree []
    ((r.2.lookup (exKey exTree)).isSome = true ∧ (r.2.lookup (exKey (node 2 []))).isSome = true) ∧
    finalHex r.2 exKey exTree ≠ finalHex r.2 exKey (node 1 []) ∧
    finalHex r.2 exKey exTree ≠ finalHex r.2 exKey (node 2 []) := by
  intro r
  have h := dot_edge_ends_have_ids exDot exKey exTree [] (exTree, node 2 [])
    (by rw [exDot_edges]; simp)
  exact ⟨h,
    dot_unique_names_distinct exDot exKey exTree [] exWF exTree (node 1 [])
      (by rw [exDot_declared]; simp) (by rw [exDot_declared]; simp) (by decide),
    dot_unique_names_distinct_of_ids exDot exKey exTree [] exWF exTree (node 2 []) h.1 h.2
      (by decide)⟩

example :
    dotIter false { exDot with nodename := uniqueName exKey } exTree [] =
      (["digraph tree {", "    \"0x0\";", "    \"0x1\";", "    \"0x0\" -> \"0x1\";",
        "    \"0x0\" -> \"0x2\";", "}"], [(0, 0), (1, 1), (2, 2)]) := rfl

end Anytree.Props.C13b
