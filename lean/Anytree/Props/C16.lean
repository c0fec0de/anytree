import Anytree.Lemmas.Faults
import Anytree.Props.C02
/-!
# C16 — notification hooks fire exactly once and in order around each link change

The log of the mirror records, per hook invocation: kind, node, argument, and a snapshot of the
whole forest as the hook sees it.  For calls no hook vetoes it equals the closed-form log of the
specification; the `*_sees` theorems state what each snapshot shows.
-/
namespace Anytree.Props.C16

/-- the complete hook log of a parent assignment, snapshots included -/
theorem log_setParent (c : Cfg) (hφ : c.φ = noFaults) (fuel : Nat) (s : Forest) (n : Nat)
    (v : Option Arg) (h : Inv s) (hv : ArgOk s.n v) (hfuel : s.n < fuel) :
    (exec c fuel (.setParent n v) s).log = (Spec.setParent c.fl s n v).log :=
  (C02.setParent_eq_spec c hφ fuel s n v h hv hfuel).2.2

/-- the complete hook log of `del n.children` -/
theorem log_delChildren (c : Cfg) (hφ : c.φ = noFaults) (fuel : Nat) (s : Forest) (n : Nat)
    (h : Inv s) (hfuel : s.n < fuel) :
    (exec c fuel (.delChildren n) s).log = (Spec.delChildren s n).log :=
  (C02.delChildren_eq_spec c hφ fuel s n h hfuel).2.2

/-- the complete hook log of a successful `n.children = xs`: `_pre_detach_children(old)`, the
detach pair of every former child in order, `_post_detach_children(old)`, `_pre_attach_children(xs)`,
for every `x` in order its detach pair (if it still has a parent) and its attach pair,
`_post_attach_children(xs)` — snapshots included -/
theorem log_setChildren (c : Cfg) (hφ : c.φ = noFaults) (fuel : Nat) (s : Forest) (n : Nat)
    (xs : List Nat) (h : Inv s) (hfuel : s.n + 2 < fuel) (hn : n < s.n) (hnd : xs.Nodup)
    (hlt : ∀ x ∈ xs, x < s.n) (hok : ∀ x ∈ xs, x ≠ n ∧ Spec.isAnc s x n = false) :
    (exec c fuel (.setChildren n (some (xs.map Arg.node))) s).log =
      (Spec.delChildren s n).log ++ [Spec.ev .preAttachChildren n xs (Spec.delChildren s n).f] ++
        (Spec.attachAll (Spec.delChildren s n).f n xs).2 ++
        [Spec.ev .postAttachChildren n xs (Spec.attachAll (Spec.delChildren s n).f n xs).1] := by
  rw [(C02.setChildren_eq_spec c hφ fuel s n xs h hfuel hn hnd hlt hok).2.2,
    Spec.setChildren_ok c.fl s n xs hnd hok]

/-- the specified log of `del n.children`: `_pre_detach_children(old)` on the pre-state, the detach events
of the children in order, `_post_detach_children(old)` on the final state -/
theorem delChildren_log_kinds (s : Forest) (n : Nat) :
    ∃ mid, (Spec.delChildren s n).log =
      [Spec.ev .preDetachChildren n (s.children n) s] ++ mid ++
      [Spec.ev .postDetachChildren n (s.children n) (Spec.detachAll s (s.children n)).1] ∧
      mid = (Spec.detachAll s (s.children n)).2 :=
  ⟨_, rfl, rfl⟩

/-- shape of the specified log of a parent assignment that happens: `_pre_detach(old)`,
`_post_detach(old)` if the node had a parent, then `_pre_attach(new)`, `_post_attach(new)` if it
gets one — each exactly once, on the moving node, with the right argument -/
theorem setParent_log_shape (fl : Flavor) (s : Forest) (n p : Nat)
    (hok : (Spec.setParent fl s n (some (.node p))).res = .ok ()) (hne : s.parent n ≠ some p) :
    ((Spec.setParent fl s n (some (.node p))).log.map fun e => (e.kind, e.node, e.arg)) =
      (match s.parent n with
       | none => []
       | some q => [(HookKind.preDetach, n, [q]), (HookKind.postDetach, n, [q])]) ++
      [(HookKind.preAttach, n, [p]), (HookKind.postAttach, n, [p])] := by
  rw [Spec.setParent_of_ok hok hne]
  cases hp : s.parent n <;> simp [Spec.detachLog, hp, Spec.attachLog, Spec.ev]

/-- **C16, `n.parent = None`**: the specified log is `_pre_detach(old)`, `_post_detach(old)` on `n` if it had
a parent, and empty otherwise -/
theorem detach_log_shape (fl : Flavor) (s : Forest) (n : Nat) :
    ((Spec.setParent fl s n none).log.map fun e => (e.kind, e.node, e.arg)) =
      (match s.parent n with
       | none => []
       | some q => [(HookKind.preDetach, n, [q]), (HookKind.postDetach, n, [q])]) := by
  simp only [Spec.setParent]
  cases hp : s.parent n <;> simp [Spec.detachLog, hp, Spec.ev]

/-- refused calls and no-ops call nothing -/
theorem no_hooks_when_refused_or_noop (fl : Flavor) (s : Forest) (n : Nat) (v : Option Arg)
    (h : (Spec.setParent fl s n v).res ≠ .ok () ∨ (Spec.setParent fl s n v).f = s ∧
      (∀ p, v = some (.node p) → s.parent n = some p) ∧ (v = none → s.parent n = none)) :
    (Spec.setParent fl s n v).log = [] := by
  match v with
  | some .nonNode => cases fl <;> simp [Spec.setParent]
  | none =>
    cases h with
    | inl h => simp [Spec.setParent] at h
    | inr h => simp [Spec.setParent, Spec.detachLog_root (h.2.2 rfl)]
  | some (.node p) =>
    simp only [Spec.setParent] at h ⊢
    by_cases hs : s.parent n = some p
    · simp [hs]
    · simp only [hs, if_false] at h ⊢
      split
      · rfl
      · rename_i hb
        simp only [hb] at h
        cases h with
        | inl h => exact absurd rfl h
        | inr h => exact absurd (h.2.1 p rfl) hs

/-- `_pre_detach` sees the node still being a child of its old parent (the untouched pre-state) -/
theorem pre_detach_sees (s : Forest) (n q : Nat) (hp : s.parent n = some q) :
    (Spec.detachLog s n).head? = some (Spec.ev .preDetach n [q] s) := by
  simp [Spec.detachLog, hp]

/-- `_post_detach` and `_pre_attach` see the node as a root that is in neither children list: a fact about
`Spec.detached s n`, which is the snapshot `Spec.detachLog` / `Spec.attachLog` hand to those hooks -/
theorem post_detach_sees (s : Forest) (h : Inv s) (n : Nat) :
    (Spec.detached s n).parent n = none ∧ ∀ q, n ∉ (Spec.detached s n).children q := by
  constructor
  · cases hp : s.parent n with
    | none => rw [Spec.detached_root hp]; exact hp
    | some q => rw [Spec.detached_eq hp]; simp
  · intro q
    rw [Spec.detached_children h]
    simp

/-- `_post_attach` sees the node as the last child of its new parent: a fact about `Spec.attached s n p`,
which is the snapshot `Spec.attachLog` hands to that hook -/
theorem post_attach_sees (s : Forest) (n p : Nat) :
    (Spec.attached s n p).parent n = some p ∧ (Spec.attached s n p).children p = s.children p ++ [n] := by
  simp [Spec.attached_parent, Spec.attached_children]

/-- an exception from a post hook of a parent assignment propagates without undoing the step that
preceded it; an exception from `_pre_detach` leaves everything as it was — for **every** fault
schedule -/
theorem post_fault_keeps_step (c : Cfg) (fuel n : Nat) (v : Option Arg) (s : Forest) (h : Inv s)
    (hv : ArgOk s.n v) (hfuel : s.n < fuel) (i : Nat) (k : HookKind) (m : Nat)
    (he : (exec c fuel (.setParent n v) s).res = .error (.hook i k m)) :
    let f' := (exec c fuel (.setParent n v) s).f
    m = n ∧
    (k = .preDetach → f' = s) ∧
    (k = .postDetach → f' = Spec.detached s n) ∧
    (k = .preAttach → f' = Spec.detached s n) ∧
    (k = .postAttach → ∃ p, v = some (.node p) ∧ f' = Spec.attached (Spec.detached s n) n p) := by
  -- the table of `Spec.seenBy s n v k = some f'`: the forest the hook of kind `k` observes
  obtain ⟨rfl, hf⟩ := setParent_hook_state c fuel n v s h he
  refine ⟨rfl, ?_, ?_, ?_, ?_⟩ <;> rintro rfl
  · exact (Option.some.inj hf).symm
  · exact (Option.some.inj hf).symm
  · exact (Option.some.inj hf).symm
  · match v, hf with
    | some (.node p), hf => exact ⟨p, rfl, (Option.some.inj hf).symm⟩

end Anytree.Props.C16
