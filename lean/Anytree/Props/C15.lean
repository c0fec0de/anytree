import Anytree.Lemmas.Walker
/-!
# C15 — Walker.walk returns the unique tree path between two nodes

A node is `(tree id, address)`.  The mirror equals `Spec.walkS` (up to the longest common prefix of the two
addresses, then down); the rest reads the claims of the property off that specification: the common node is
the lowest common ancestor, `upwards` and `downwards` are parent/child chains ending in it, together a
simple path, and `walk(end, start)` is the mirror image.
-/
namespace Anytree.Props.C15
open Tree Walker Spec WalkerLemmas

/-- the parent in the walker's terms: same tree, the address without its last index (a root is its own
`par`; the chains below never ask for it) -/
def par (x : WNode) : WNode := (x.1, x.2.dropLast)

/-- in a tree the *filter* of `__calc_common` is the longest common prefix of the two root paths -/
theorem calcCommon_eq_lcp (t : Nat) (a b : Addr) :
    calcCommon (pathOf (t, a)) (pathOf (t, b)) = (prefixes (lcp2 a b)).map (fun p => (t, p)) := by
  rw [pathOf_eq, pathOf_eq]
  exact calcCommon_prefixes t a b

/-- `if start is common: upwards = ()`: where the walker writes the empty tuple, the general
expression is empty anyway -/
theorem ite_below {β : Type} (c a : Addr) (f : List Addr → List β) (hf : f [] = []) :
    (if a = c then [] else f (below c a)) = f (below c a) := by
  split
  · next h => rw [h, below_self, hf]
  · rfl

/-- mirror = specification, for every pair of nodes -/
theorem walk_eq_spec (s e : WNode) : Walker.walk s e = Spec.walkS s e := by
  obtain ⟨t, a⟩ := s
  obtain ⟨u, b⟩ := e
  simp only [Walker.walk, Spec.walkS, rootOf_eq]
  by_cases h : t = u
  · subst h
    -- the common part of the two root paths is the root path of the longest common prefix
    -- (`calcCommon_prefixes`): its last node is that prefix, its length one more than the prefix's, and what
    -- is left of either root path is `below`
    simp only [ne_eq, not_true_eq_false, if_false, pathOf_eq, calcCommon_prefixes, List.getLast?_map,
      getLast?_prefixes, Option.map_some, List.length_map, length_prefixes,
      Prod.mk.injEq, true_and, ← List.map_drop, ← List.map_reverse]
    congr 1
    · exact ite_below (lcp2 a b) a (fun l => l.reverse.map fun p => (t, p)) rfl
    · exact ite_below (lcp2 a b) b (fun l => l.map fun p => (t, p)) rfl
  · simp [h]

/-- nodes of different trees: WalkError -/
theorem walk_different_trees (s e : WNode) (h : s.1 ≠ e.1) : Walker.walk s e = .walkError := by
  rw [walk_eq_spec]; simp [Spec.walkS, h]

/-- `common` is the lowest common ancestor: an ancestor-or-self of both, below every other one -/
theorem common_is_lca (a b : Addr) :
    lcp2 a b <+: a ∧ lcp2 a b <+: b ∧ ∀ d, d <+: a → d <+: b → d <+: lcp2 a b :=
  ⟨Spec.lcp2_prefix_left a b, Spec.lcp2_prefix_right a b, fun d => prefix_lcp2 d a b⟩

/-- start or end itself when one is an ancestor of the other -/
theorem common_of_ancestor (a b : Addr) (h : a <+: b) : lcp2 a b = a := by
  induction a generalizing b with
  | nil => cases b <;> simp [lcp2]
  | cons x xs ih =>
    cases b with
    | nil => simp at h
    | cons y ys =>
      rw [List.cons_prefix_cons] at h
      obtain ⟨rfl, h⟩ := h
      simp [lcp2, ih ys h]

/-- `upwards` lists the nodes from `start` up to but excluding `common`, each the child of the next;
`downwards` the nodes below `common` down to `end`, each the parent of the next -/
theorem walk_chains (t : Nat) (a b : Addr) :
    ∃ up down, Spec.walkS (t, a) (t, b) = .ok up (t, lcp2 a b) down ∧
      (∀ i (h : i + 1 < up.length), par (up[i]'(by omega)) = up[i + 1]) ∧
      (up ≠ [] → up.head? = some (t, a) ∧ (up.getLast?.map par) = some (t, lcp2 a b)) ∧
      (up = [] ↔ a = lcp2 a b) ∧
      (∀ i (h : i + 1 < down.length), par (down[i + 1]) = down[i]'(by omega)) ∧
      (down ≠ [] → down.getLast? = some (t, b) ∧ (down.head?.map par) = some (t, lcp2 a b)) ∧
      (down = [] ↔ b = lcp2 a b) := by
  have hca := Spec.lcp2_prefix_left a b
  have hcb := Spec.lcp2_prefix_right a b
  generalize hc : lcp2 a b = c at hca hcb
  have hpar : ∀ o : Option Addr, (o.map fun p => ((t, p) : WNode)).map par = (o.map List.dropLast).map fun p => (t, p) :=
    fun o => by cases o <;> rfl
  refine ⟨(below c a).reverse.map (fun p => (t, p)), (below c b).map (fun p => (t, p)), ?_, ?_, ?_, ?_, ?_, ?_, ?_⟩
  · simp only [Spec.walkS, ne_eq, not_true_eq_false, if_false, hc]
  · intro i h
    simp only [List.length_map, List.length_reverse] at h
    simp only [par, List.getElem_map, List.getElem_reverse, Prod.mk.injEq, true_and]
    exact below_step c a _ _ _ (Nat.succ_pred_eq_of_pos (Nat.sub_pos_of_lt (Nat.lt_sub_of_add_lt h))).symm
  · intro hne
    have hne' : below c a ≠ [] := fun h0 => hne (by simp [h0])
    constructor
    · rw [List.head?_map, List.head?_reverse, below_getLast? hne']; rfl
    · rw [List.getLast?_map, List.getLast?_reverse, hpar, below_head? hca hne']; rfl
  · rw [← below_eq_nil_iff hca, List.map_eq_nil_iff, List.reverse_eq_nil_iff]
  · intro i h
    simp only [List.length_map] at h
    simp only [par, List.getElem_map, Prod.mk.injEq, true_and]
    exact below_step c b _ _ h rfl
  · intro hne
    have hne' : below c b ≠ [] := fun h0 => hne (by simp [h0])
    constructor
    · rw [List.getLast?_map, below_getLast? hne']; rfl
    · rw [List.head?_map, hpar, below_head? hcb hne']; rfl
  · rw [← below_eq_nil_iff hcb, List.map_eq_nil_iff]

/-- `upwards + (common,) + downwards` is a simple path: no node twice -/
theorem walk_simple_path (t : Nat) (a b : Addr) (up down : List WNode) (c : WNode)
    (h : Spec.walkS (t, a) (t, b) = .ok up c down) : (up ++ [c] ++ down).Nodup := by
  simp only [Spec.walkS, ne_eq, not_true_eq_false, if_false, Res.ok.injEq] at h
  obtain ⟨rfl, rfl, rfl⟩ := h
  -- each half with the common ancestor is a tail of a root path
  have na : (lcp2 a b :: below (lcp2 a b) a).Nodup := by
    rw [cons_below (Spec.lcp2_prefix_left a b)]
    exact (nodup_prefixes a).sublist (List.drop_sublist _ _)
  have nb : (lcp2 a b :: below (lcp2 a b) b).Nodup := by
    rw [cons_below (Spec.lcp2_prefix_right a b)]
    exact (nodup_prefixes b).sublist (List.drop_sublist _ _)
  have key : ((below (lcp2 a b) a).reverse ++ lcp2 a b :: below (lcp2 a b) b).Nodup := by
    refine List.nodup_append.mpr ⟨List.pairwise_reverse.2 ((List.nodup_cons.mp na).2.imp Ne.symm),
      nb, fun x hx y hy e => ?_⟩
    subst e
    rw [List.mem_reverse] at hx
    rcases List.mem_cons.mp hy with rfl | hy
    · exact (List.nodup_cons.mp na).1 hx
    · -- a node below the common ancestor on both sides would be a longer common prefix
      obtain ⟨k, hk, _, rfl⟩ := mem_below hx
      obtain ⟨k', _, _, e⟩ := mem_below hy
      have hpre : List.take k a <+: lcp2 a b :=
        prefix_lcp2 _ a b (List.take_prefix _ _) (e ▸ List.take_prefix _ _)
      have := hpre.length_le
      rw [List.length_take] at this
      omega
  have : (((below (lcp2 a b) a).reverse ++ lcp2 a b :: below (lcp2 a b) b).map
      fun p => ((t, p) : WNode)).Nodup :=
    List.Pairwise.map _ (fun p q hpq e => hpq (by simpa using e)) key
  simpa using this

/-- `walk(end, start)` is the mirror image -/
theorem walk_mirror (s e : WNode) (up down : List WNode) (c : WNode)
    (h : Spec.walkS s e = .ok up c down) : Spec.walkS e s = .ok down.reverse c up.reverse := by
  obtain ⟨t, a⟩ := s
  obtain ⟨u, b⟩ := e
  simp only [Spec.walkS] at h ⊢
  by_cases htu : t = u
  · subst htu
    simp only [ne_eq, not_true_eq_false, if_false, Res.ok.injEq] at h ⊢
    obtain ⟨rfl, rfl, rfl⟩ := h
    simp [lcp2_comm b a, List.map_reverse]
  · simp [htu] at h

end Anytree.Props.C15
