import Anytree.Props.C05
import Anytree.Lemmas.Admit
/-!
# C06b — the admitted tree means what the sentence says

C06 words admission by *positions*: each of the five iterators visits exactly the admitted nodes — those
at relative depth below `maxlevel` for which no node on the path from the start node down to and
including themselves satisfies `stop` — in the order of its unrestricted traversal, and yields those of
them for which `filter_` is true.  `Spec.Admitted S m t a` (`Lemmas/Admit.lean`) is that sentence over
addresses `a` below `t`; `addrTree t` is `t` relabelled with addresses, so `pre`, `post` and `levelOrder`
of it are the unrestricted traversals of the positions.  Every iterator = its traversal of the
positions, filtered by `Admitted`, looked up with `sub t`, filtered by `filter_`: no bound on size, depth
or `maxlevel`.
-/
namespace Anytree.Props.C06b
open Tree Iter Spec
variable {α : Type}

theorem admittedB_iff (S : Tree α → Bool) (m : Option Int) (t : Tree α) (a : Addr) :
    admittedB S m t a = true ↔ Admitted S m t a := Spec.admittedB_iff S m t a

/-- the admitted tree in pre-order: the positions in pre-order, filtered by admission, looked up
(`addrs t` is `pre (addrTree t)`, `pre_addrTree`; the other two forms below write `addrTree`) -/
theorem pre_positional (S : Tree α → Bool) (m : Option Int) (t : Tree α) :
    optPre (admitT S m t) = ((addrs t).filter (admittedB S m t)).filterMap (sub t) := by
  rw [optPre_admitT, pre_addrTree]; rfl

theorem filter_admittedB_unrestricted (t : Tree α) (l : List Addr) :
    l.filter (admittedB (fun _ => false) none t) = l :=
  List.filter_eq_self.mpr fun a _ =>
    (Spec.admittedB_iff ..).mpr ⟨fun k hk => (by cases hk), fun _ _ _ _ => rfl⟩

/-- the unfiltered pre-order list, in the same form -/
theorem pre_decorate_positional (t : Tree α) :
    pre (decorate t) = (addrs t).filterMap (sub t) := by
  have := pre_positional (fun _ => false) none t
  rwa [admitT_unrestricted, filter_admittedB_unrestricted] at this

/-- the admitted tree in post-order: the positions in post-order, filtered by admission, looked up -/
theorem post_positional (S : Tree α → Bool) (m : Option Int) (t : Tree α) :
    optPost (admitT S m t) =
      ((post (addrTree t)).filter (admittedB S m t)).filterMap (sub t) :=
  optPost_admitT S t m

theorem post_decorate_positional (t : Tree α) :
    post (decorate t) = (post (addrTree t)).filterMap (sub t) := by
  have := post_positional (fun _ => false) none t
  rwa [admitT_unrestricted, filter_admittedB_unrestricted] at this

/-- the admitted tree in level order: the positions in level order, filtered by admission, looked up -/
theorem level_positional (S : Tree α → Bool) (m : Option Int) (t : Tree α) :
    (optLevels (admitT S m t)).flatten =
      ((levelOrder (addrTree t)).filter (admittedB S m t)).filterMap (sub t) := by
  have key := fun k => optAtDepth_admitT S t k m
  show _ = readOut S m t _
  rw [levelOrder, levels, ← List.flatMap_def, readOut_flatMap, height_addrTree]
  simp only [← key]
  -- both concatenations stop where the levels are empty: beyond the height of the admitted tree,
  -- and beyond the height of `t` because there are no positions there
  cases hA : admitT S m t with
  | none => simp [optLevels, optAtDepth]
  | some A =>
    simp only [optLevels, levels, ← List.flatMap_def, optAtDepth]
    refine flatMap_range_eq _ _ _ (fun k hk => atDepth_of_height_lt A k hk) fun k hk => ?_
    have := key k
    rw [hA, atDepth_of_height_lt (addrTree t) k (height_addrTree t ▸ hk)] at this
    exact this

theorem levelOrder_decorate_positional (t : Tree α) :
    levelOrder (decorate t) = (levelOrder (addrTree t)).filterMap (sub t) := by
  have := level_positional (fun _ => false) none t
  rwa [admitT_unrestricted, filter_admittedB_unrestricted] at this

theorem optLevels_getElem {β : Type} (o : Option (Tree β)) (k : Nat)
    (hk : k < (optLevels o).length) : (optLevels o)[k] = optAtDepth k o := by
  cases o with
  | none => simp [optLevels] at hk
  | some A => simp [optLevels, levels, optAtDepth]

/-- the single levels: level `k` of the admitted tree is level `k` of the positions, filtered -/
theorem group_positional (S : Tree α → Bool) (m : Option Int) (t : Tree α) (k : Nat)
    (hk : k < (optLevels (admitT S m t)).length) :
    (optLevels (admitT S m t))[k] =
      ((atDepth k (addrTree t)).filter (admittedB S m t)).filterMap (sub t) := by
  rw [optLevels_getElem _ k hk]
  exact optAtDepth_admitT S t k m

theorem preIter_positional (F S : Tree α → Bool) (m : Option Int) (t : Tree α) :
    preIter F S m t = (((addrs t).filter (admittedB S m t)).filterMap (sub t)).filter F := by
  rw [C06.preIter_spec, preSpec, pre_positional]

/-- the same with the `Prop`-valued definition (decidable through `admittedB`) -/
theorem preIter_positional' (F S : Tree α → Bool) (m : Option Int) (t : Tree α) :
    preIter F S m t =
      (((pre (addrTree t)).filter (fun a => decide (Admitted S m t a))).filterMap (sub t)).filter F := by
  rw [preIter_positional, ← pre_addrTree]
  congr 3
  funext a; rw [Bool.eq_iff_iff, admittedB_iff, decide_eq_true_iff]

theorem postIter_positional (F S : Tree α → Bool) (m : Option Int) (t : Tree α) :
    postIter F S m t =
      (((post (addrTree t)).filter (admittedB S m t)).filterMap (sub t)).filter F := by
  rw [C06.postIter_spec, postSpec, post_positional]

theorem levelIter_positional (F S : Tree α → Bool) (m : Option Int) (t : Tree α) :
    levelIter F S m t =
      (((levelOrder (addrTree t)).filter (admittedB S m t)).filterMap (sub t)).filter F := by
  rw [C06.levelIter_spec, levelSpec, level_positional]

/-- group `k` of `LevelOrderGroupIter` = the admitted nodes at relative depth `k`, left to right,
for which `filter_` is true -/
theorem groupIter_positional (F S : Tree α → Bool) (m : Option Int) (t : Tree α) (k : Nat)
    (hk : k < (groupIter F S m t).length) :
    (groupIter F S m t)[k] =
      (((atDepth k (addrTree t)).filter (admittedB S m t)).filterMap (sub t)).filter F := by
  have hk' : k < (optLevels (admitT S m t)).length := by
    rw [C06.groupIter_spec, groupSpec, List.length_map] at hk; exact hk
  rw [← group_positional S m t k hk']
  simp [C06.groupIter_spec, groupSpec]

/-- group `k` of `ZigZagGroupIter`: the same, reversed for odd `k` -/
theorem zigzagIter_positional (F S : Tree α → Bool) (m : Option Int) (t : Tree α) (k : Nat)
    (hk : k < (zigzagIter F S m t).length) :
    (zigzagIter F S m t)[k] =
      let g := (((atDepth k (addrTree t)).filter (admittedB S m t)).filterMap (sub t)).filter F
      if k % 2 = 1 then g.reverse else g := by
  have hk' : k < (optLevels (admitT S m t)).length := by
    rw [C06.zigzagIter_spec, zigzagIterSpec, zigzagSpec, List.length_mapIdx, List.length_map] at hk
    exact hk
  simp only [← group_positional S m t k hk']
  simp [C06.zigzagIter_spec, zigzagIterSpec, zigzagSpec]

/-- the number of groups is the same for both grouped iterators, and no group count depends on
`filter_` -/
theorem group_count (F S : Tree α → Bool) (m : Option Int) (t : Tree α) :
    (groupIter F S m t).length = (optLevels (admitT S m t)).length ∧
    (zigzagIter F S m t).length = (optLevels (admitT S m t)).length := by
  rw [C06.groupIter_spec, C06.zigzagIter_spec]
  simp [groupSpec, zigzagIterSpec, zigzagSpec]

/-- the admitted tree holds exactly the nodes at admitted addresses -/
theorem mem_admitted_iff (S : Tree α → Bool) (m : Option Int) (t : Tree α) (x : Tree α) :
    x ∈ optPre (admitT S m t) ↔ ∃ a, sub t a = some x ∧ Admitted S m t a := by
  rw [pre_positional, List.mem_filterMap]
  constructor
  · rintro ⟨a, ha, hx⟩
    rw [List.mem_filter] at ha
    exact ⟨a, hx, (Spec.admittedB_iff S m t a).mp ha.2⟩
  · rintro ⟨a, hx, hA⟩
    refine ⟨a, List.mem_filter.mpr ⟨?_, (Spec.admittedB_iff S m t a).mpr hA⟩, hx⟩
    rw [mem_addrs, hx]; rfl

theorem mem_preIter_iff (F S : Tree α → Bool) (m : Option Int) (t : Tree α) (x : Tree α) :
    x ∈ preIter F S m t ↔ F x = true ∧ ∃ a, sub t a = some x ∧ Admitted S m t a := by
  rw [C06.preIter_spec, preSpec, List.mem_filter, mem_admitted_iff, and_comm]

/-- a node that satisfies `stop` is not admitted, and neither is anything below it -/
theorem stop_prunes_subtree (S : Tree α → Bool) (m : Option Int) (t : Tree α) (a : Addr)
    (u : Tree α) (hu : sub t a = some u) (hs : S u = true) :
    ∀ a', a <+: a' → ¬ Admitted S m t a' := by
  intro a' h hA
  have := hA.2 a h u hu
  rw [hs] at this; cases this

/-- `maxlevel = k` cuts everything at relative depth `≥ k` -/
theorem maxlevel_cuts_depth (S : Tree α → Bool) (k : Int) (t : Tree α) (a : Addr)
    (h : k ≤ (a.length : Int)) : ¬ Admitted S (some k) t a := by
  intro hA
  exact Int.not_lt.2 h (hA.1 k rfl)

/-- conversely, with no `stop` node on the path and depth below `maxlevel`, the node is admitted:
this is the definition — nothing else matters, in particular not `filter_` -/
theorem admitted_intro (S : Tree α → Bool) (m : Option Int) (t : Tree α) (a : Addr)
    (hd : ∀ k, m = some k → (a.length : Int) < k)
    (hp : ∀ b, b <+: a → ∀ u, sub t b = some u → S u = false) : Admitted S m t a := ⟨hd, hp⟩

/-- `filter_` hides only the node itself: an admitted node with `filter_` true is yielded whatever
`filter_` says about its ancestors (or any other node) -/
theorem filter_hides_only_itself (F S : Tree α → Bool) (m : Option Int) (t : Tree α) (a : Addr)
    (x : Tree α) (hx : sub t a = some x) (hA : Admitted S m t a) (hF : F x = true) :
    x ∈ preIter F S m t :=
  (mem_preIter_iff F S m t x).mpr ⟨hF, a, hx, hA⟩

/-- whether `x` is yielded depends on `filter_` only through `filter_ x` -/
theorem mem_preIter_congr_filter (F F' S : Tree α → Bool) (m : Option Int) (t : Tree α)
    (x : Tree α) (h : F x = F' x) : x ∈ preIter F S m t ↔ x ∈ preIter F' S m t := by
  rw [mem_preIter_iff, mem_preIter_iff, h]

/-- all five iterators yield the same nodes, each as often as the pre-order iterator does -/
theorem iterators_perm (F S : Tree α → Bool) (m : Option Int) (t : Tree α) :
    (postIter F S m t).Perm (preIter F S m t) ∧
    (levelIter F S m t).Perm (preIter F S m t) ∧
    (groupIter F S m t).flatten.Perm (preIter F S m t) ∧
    (zigzagIter F S m t).flatten.Perm (preIter F S m t) := by
  rw [C06.preIter_spec, C06.postIter_spec, C06.levelIter_spec, C06.groupIter_spec,
    C06.zigzagIter_spec]
  have hl : (levelSpec F S m t).Perm (preSpec F S m t) := by
    unfold levelSpec preSpec
    cases admitT S m t with
    | none => exact .refl _
    | some A => exact (C05.pre_perm_levelOrder A).filter F
  have hg : (groupSpec F S m t).flatten.Perm (preSpec F S m t) := by
    unfold groupSpec; rw [← List.filter_flatten]; exact hl
  refine ⟨?_, hl, hg, (C05.zigzag_flatten_perm _).trans hg⟩
  unfold postSpec preSpec
  cases admitT S m t with
  | none => exact .refl _
  | some A => exact (C05.pre_perm_post A).symm.filter F

/-- membership, for all five -/
theorem mem_iterators_iff (F S : Tree α → Bool) (m : Option Int) (t : Tree α) (x : Tree α) :
    let yielded := F x = true ∧ ∃ a, sub t a = some x ∧ Admitted S m t a
    (x ∈ preIter F S m t ↔ yielded) ∧ (x ∈ postIter F S m t ↔ yielded) ∧
    (x ∈ levelIter F S m t ↔ yielded) ∧ (x ∈ (groupIter F S m t).flatten ↔ yielded) ∧
    (x ∈ (zigzagIter F S m t).flatten ↔ yielded) := by
  obtain ⟨h1, h2, h3, h4⟩ := iterators_perm F S m t
  have h0 := mem_preIter_iff F S m t x
  exact ⟨h0, h1.mem_iff.trans h0, h2.mem_iff.trans h0, h3.mem_iff.trans h0, h4.mem_iff.trans h0⟩

/-- the iterators are monotone in what they admit: accepting more, stopping less and reaching
deeper yields a superlist, in each of the three orders -/
theorem iterators_mono {F F' S S' : Tree α → Bool} {m m' : Option Int}
    (hF : ∀ x, F x = true → F' x = true) (hS : ∀ x, S' x = true → S x = true)
    (hm : LevelLe m m') (t : Tree α) :
    (preIter F S m t).Sublist (preIter F' S' m' t) ∧
    (postIter F S m t).Sublist (postIter F' S' m' t) ∧
    (levelIter F S m t).Sublist (levelIter F' S' m' t) := by
  rw [preIter_positional, preIter_positional, postIter_positional, postIter_positional,
    levelIter_positional, levelIter_positional]
  have key (l : List Addr) : ((readOut S m t l).filter F).Sublist ((readOut S' m' t l).filter F') :=
    ((readOut_mono hS hm t l).filter F).trans (filter_sublist_filter hF _)
  exact ⟨key _, key _, key _⟩

/-- each restricted iterator yields a sublist of what the unrestricted one yields -/
theorem iterators_sublist (F S : Tree α → Bool) (m : Option Int) (t : Tree α) :
    (preIter F S m t).Sublist (preIter C05.allF C05.noS none t) ∧
    (postIter F S m t).Sublist (postIter C05.allF C05.noS none t) ∧
    (levelIter F S m t).Sublist (levelIter C05.allF C05.noS none t) :=
  iterators_mono (F' := C05.allF) (S' := C05.noS) (m' := none) (fun _ _ => rfl)
    (fun _ h => Bool.noConfusion h) (fun _ h => nomatch h) t

-- node 1 is filtered out, yet its child 3 is still visited; node 4 satisfies stop and its child 7
-- is pruned with it; maxlevel 3 cuts node 6 (relative depth 3)
example :
    let t : Tree Nat :=
      node 0 [node 1 [node 3 [], node 4 [node 7 []]], node 2 [node 5 [node 6 []]]]
    let F : Tree Nat → Bool := fun n => n.label != 1
    let S : Tree Nat → Bool := fun n => n.label == 4
    (preSpec F S (some 3) t).map label = [0, 3, 2, 5] ∧
    ((addrs t).filter (admittedB S (some 3) t)) = [[], [0], [0, 0], [1], [1, 0]] ∧
    admittedB S (some 3) t [0, 1] = false ∧ admittedB S (some 3) t [0, 1, 0] = false ∧
    admittedB S (some 3) t [1, 0, 0] = false ∧ admittedB S none t [1, 0, 0] = true ∧
    (postSpec F S (some 3) t).map label = [3, 5, 2, 0] ∧
    (((post (addrTree t)).filter (admittedB S (some 3) t)).filterMap (sub t)).map label
      = [3, 1, 5, 2, 0] := by
  decide

end Anytree.Props.C06b
