import Anytree.Lemmas.Reentrant
/-!
# C01/C02/C16 — a parent assignment whose hook detaches ANOTHER node

`Model/ForestR.lean` mirrors `n.parent = p` with one re-entrant hook: at one of the four hook positions the hook executes
`y.parent = None` for a node `y ≠ n`.  Claim: the call ends exactly where the two calls made one after the other end —
first `y.parent = None`, then `n.parent = p` — whenever the hook in question actually fires (the assignment is not a
no-op, is not refused, and for positions 0/1 the node has a parent to be detached from).  Hence the forest is consistent
afterwards (`Inv`), and the effect is the specified one.  This is the model-level counterpart of the harness's `pre_ops`
oracle for re-entrant hooks.
-/
namespace Anytree.Props.C02r

/-- the hook at position `pos` fires during `n.parent = p` from state `s` -/
def Fires (s : Forest) (n p pos : Nat) : Prop :=
  s.parent n ≠ some p ∧ p ≠ n ∧ Spec.isAnc s n p = false ∧ pos < 4 ∧ (pos < 2 → s.parent n ≠ none)

/-- the re-entrant call returns, and its final forest is the specified one -/
theorem setParentR_run (c : Cfg) (hφ : c.φ = noFaults) (fuel n p pos y : Nat) (s : Forest)
    (h : Inv s) (hn : n < s.n) (hp : p < s.n) (hyn : y ≠ n) (hfuel : s.n < fuel)
    (hne : s.parent n ≠ some p) (hpn : p ≠ n) (hanc : Spec.isAnc s n p = false) (hpos : pos < 4)
    (hpar : pos < 2 → s.parent n ≠ none) :
    ∃ w', setParentR c fuel n p pos y ⟨s, [], 0⟩ = (.ok (), w') ∧
      w'.f = Spec.attached (Spec.detached (Spec.detached s y) n) n p := by
  obtain ⟨w', e, f⟩ :=
    steps_setParentR hφ fuel n p pos y h hn hp hyn hfuel hpn hanc hpos hpar ⟨s, [], 0⟩ rfl
  refine ⟨w', ?_, f⟩
  simp only [setParentR, hne, if_false]
  exact e

/-- **sequentialisation**: with observing-only hooks otherwise (no faults), a parent assignment during which the hook at
position `pos` detaches another node `y` ends in the same forest as `y.parent = None` followed by `n.parent = p`, and both succeed -/
theorem setParentR_eq_seq (c : Cfg) (hφ : c.φ = noFaults) (fuel n p pos y : Nat) (s : Forest)
    (h : Inv s) (hn : n < s.n) (hp : p < s.n) (hy : y < s.n) (hyn : y ≠ n) (hfuel : s.n < fuel)
    (hf : Fires s n p pos) :
    let r := setParentR c fuel n p pos y ⟨s, [], 0⟩
    let q := (setParent c fuel y none ⨾ setParent c fuel n (some (.node p))) ⟨s, [], 0⟩
    r.1 = .ok () ∧ q.1 = .ok () ∧ r.2.f = q.2.f := by
  obtain ⟨hne, hpn, hanc, hpos, hpar⟩ := hf
  obtain ⟨w1, e1, f1⟩ := setParentR_run c hφ fuel n p pos y s h hn hp hyn hfuel hne hpn hanc hpos hpar
  obtain ⟨w2, e2, f2⟩ := steps_detach_then_move hφ fuel n p y h hp hyn hfuel hne hpn hanc ⟨s, [], 0⟩ rfl
  simp only [e1, e2, f1, f2, and_self]

/-- the final forest, spelled with the specification's link updates -/
theorem setParentR_forest (c : Cfg) (hφ : c.φ = noFaults) (fuel n p pos y : Nat) (s : Forest)
    (h : Inv s) (hn : n < s.n) (hp : p < s.n) (hy : y < s.n) (hyn : y ≠ n) (hfuel : s.n < fuel)
    (hf : Fires s n p pos) :
    (setParentR c fuel n p pos y ⟨s, [], 0⟩).2.f =
      Spec.attached (Spec.detached (Spec.detached s y) n) n p := by
  obtain ⟨hne, hpn, hanc, hpos, hpar⟩ := hf
  obtain ⟨w1, e1, f1⟩ := setParentR_run c hφ fuel n p pos y s h hn hp hyn hfuel hne hpn hanc hpos hpar
  rw [e1]; exact f1

/-- **C01 with a re-entrant hook**: the forest is consistent after such a call -/
theorem inv_setParentR (c : Cfg) (hφ : c.φ = noFaults) (fuel n p pos y : Nat) (s : Forest)
    (h : Inv s) (hn : n < s.n) (hp : p < s.n) (hy : y < s.n) (hyn : y ≠ n) (hfuel : s.n < fuel)
    (hf : Fires s n p pos) :
    Inv (setParentR c fuel n p pos y ⟨s, [], 0⟩).2.f := by
  rw [setParentR_forest c hφ fuel n p pos y s h hn hp hy hyn hfuel hf]
  obtain ⟨_, hpn, hanc, _, _⟩ := hf
  have hno : ∀ j, s.up j p ≠ some n := (h.chain_avoid_iff hp).2 ⟨Ne.symm hpn, hanc⟩
  rw [Spec.detached_comm h y n]
  exact ((Ready.self h hno).detached y).inv_attached hn hp

/-- when the hook does not fire (no-op assignment) nothing happens at all -/
theorem setParentR_noop (c : Cfg) (fuel n p pos y : Nat) (s : Forest) (h : s.parent n = some p) :
    setParentR c fuel n p pos y ⟨s, [], 0⟩ = (.ok (), ⟨s, [], 0⟩) := by
  simp only [setParentR, h, if_true]

/-- the restriction `y ≠ n` cannot be dropped: a `_pre_attach` hook that detaches the very node being attached (`y = n`
does nothing, the node has no parent at that moment) is harmless, but a hook that RE-PARENTS the moving node is outside
this file's vocabulary altogether; within it, `y = n` at position 3 (the `_post_attach` hook detaches the node just
attached) ends with `n` a root - which is NOT what `n.parent = p` after `n.parent = None` gives -/
example : ∃ (s : Forest) (n p : Nat), Inv s ∧ n < s.n ∧ p < s.n ∧ Fires s n p 3 ∧
    (setParentR ⟨.nm, false, noFaults⟩ 8 n p 3 n ⟨s, [], 0⟩).2.f.parent n ≠
      ((setParent ⟨.nm, false, noFaults⟩ 8 n none ⨾ setParent ⟨.nm, false, noFaults⟩ 8 n (some (.node p))) ⟨s, [], 0⟩).2.f.parent n := by
  -- two parentless nodes; `0.parent = 1` whose `_post_attach` hook detaches node 0 again
  refine ⟨⟨2, fun _ => none, fun _ => []⟩, 0, 1, ?_, by decide, by decide, ?_, ?_⟩
  · exact ⟨by intro c p; simp, by intro p; simp, by intro x; exact ⟨1, by simp [Forest.up]⟩,
      by intro x _; simp⟩
  · exact ⟨by simp, by decide, by decide, by decide, by decide⟩
  · decide

end Anytree.Props.C02r
