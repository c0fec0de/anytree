import Anytree.Props.C05
/-!
# C05, the iterator object as a one-pass stream

`AbstractIter.__iter__` returns the object itself and `__next__` pulls from one lazily created
generator, so however a caller consumes an iterator object — a `for` loop left early and resumed,
explicit `next()` calls, several `iter()` handles on the same object — the pieces it sees are
consecutive segments of the one defined order, nothing is visited twice, and an exhausted iterator
stays exhausted.  The object is modelled by the list of nodes still to come.
-/
namespace Anytree.Props.C05b
variable {α : Type}

/-- `next(it)`: the next node and the remaining stream, or `StopIteration` -/
def next : List α → Option (α × List α)
  | [] => none
  | x :: xs => some (x, xs)

/-- take up to `k` elements with `next` (a `for` loop left after `k` items / `k` explicit `next()` calls) -/
def pull : Nat → List α → List α × List α
  | 0, s => ([], s)
  | _ + 1, [] => ([], [])
  | k + 1, x :: xs => let r := pull k xs; (x :: r.1, r.2)

/-- consume the stream in pieces of the given sizes, then drain it (`list(it)`) -/
def pieces : List Nat → List α → List (List α)
  | [], s => [s]
  | k :: ks, s => let r := pull k s; r.1 :: pieces ks r.2

theorem pull_eq (k : Nat) (s : List α) : pull k s = (s.take k, s.drop k) := by
  induction k generalizing s with
  | zero => simp [pull]
  | succ k ih =>
    cases s with
    | nil => simp [pull]
    | cons x xs => simp [pull, ih]

/-- **the pieces concatenate to the defined order**, whatever the piece sizes -/
theorem pieces_flatten (ks : List Nat) (s : List α) : (pieces ks s).flatten = s := by
  induction ks generalizing s with
  | nil => simp [pieces]
  | cons k ks ih => simp [pieces, pull_eq, ih]

/-- an exhausted iterator stays exhausted -/
theorem exhausted_stays : next ([] : List α) = none ∧ pull k ([] : List α) = ([], []) := by
  constructor
  · rfl
  · cases k <;> rfl

/-- for the pre-order iterator with default arguments: consumed in any pieces, every node of the
subtree is seen exactly once, in pre-order -/
theorem preIter_pieces (ks : List Nat) (t : Tree α) :
    (pieces ks (Iter.preIter C05.allF C05.noS none t)).flatten = Tree.pre (Tree.decorate t) := by
  rw [pieces_flatten]; exact C05.preIter_eq t

/-- `pieces_flatten` at an arbitrary list: whatever sequence (or sequence of groups) an iterator
yields, its pieces concatenate to it -/
theorem any_iter_pieces {β : Type} (it : List β) (ks : List Nat) : (pieces ks it).flatten = it :=
  pieces_flatten ks it

example : pieces [1, 0, 2] [10, 20, 30, 40, 50] = [[10], [], [20, 30], [40, 50]] := by decide

end Anytree.Props.C05b
