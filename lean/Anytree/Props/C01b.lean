import Anytree.Props.C01
/-!
# C01, internal assertions

With `ANYTREE_ASSERTIONS` switched on, none of the internal `assert` statements of
`__detach`, `__attach`, the `children` deleter and the `children` setter ever fires on a consistent
forest: for **every** fault schedule of the eight hooks (any hook raising at any invocation, once or
persistently), both flavours, every well-formed argument and **every** amount of fuel (when the
fuel runs out the result is `diverged`, not `assertion`), including inside the recursive restore
of the children setter.
-/
namespace Anytree.Props.C01

/-- **C01, assertions, one step**: no structural call on a consistent forest trips an internal
assertion — every fault schedule, flavour, assertion switch and fuel -/
theorem no_assertion_exec (c : Cfg) (fuel : Nat) (op : Op) (s : Forest) (h : Inv s)
    (hwf : WellFormed s op) : (exec c fuel op s).res ≠ .error .assertion :=
  (exec_onRaise c fuel op s h hwf).ne_assertion

/-- `del n.children` never raises `AssertionError` (no assumption on `n`, none on the fuel) -/
theorem no_assertion_delChildren (c : Cfg) (fuel n : Nat) (s : Forest) (h : Inv s) :
    (exec c fuel (.delChildren n) s).res ≠ .error .assertion :=
  (OnRaise.exec (delChildren_onRaise s.n c fuel n) ⟨h, rfl⟩).ne_assertion

/-- `n.children = xs` never raises `AssertionError`, whatever the hooks do and however deep the
restore recursion goes -/
theorem no_assertion_setChildren (c : Cfg) (fuel n : Nat) (xs : Option (List Arg)) (s : Forest)
    (h : Inv s) (hwf : WellFormed s (.setChildren n xs)) :
    (exec c fuel (.setChildren n xs) s).res ≠ .error .assertion :=
  no_assertion_exec c fuel _ s h hwf

/-- `n.parent = v` never raises `AssertionError` (no assumption on the arguments or the fuel) -/
theorem no_assertion_setParent (c : Cfg) (fuel n : Nat) (v : Option Arg) (s : Forest) (h : Inv s) :
    (exec c fuel (.setParent n v) s).res ≠ .error .assertion := by
  show (setParent c fuel n v ⟨s, [], 0⟩).1 ≠ _
  rw [IsPlan.setParent c fuel n v h _ rfl]
  intro he
  rcases Plan.run_err he with hr | ⟨_, _, _, hr, _⟩
  · exact setParentPlan_refuses _ _ _ _ _ _ hr.1
  · cases hr

/-- no constructor call (`Node(…, parent=p, children=cs)`) raises `AssertionError` -/
theorem no_assertion_ctor (c : Cfg) (fuel : Nat) (p : Option Arg) (cs : CtorKids) (s : Forest)
    (h : Inv s) (hwf : WellFormed s (.ctor p cs)) :
    (exec c fuel (.ctor p cs) s).res ≠ .error .assertion :=
  no_assertion_exec c fuel _ s h hwf

/-- the result of every call of a history -/
def resultsOf (fuel : Nat) : List (Cfg × Op) → Forest → List (Except Err Unit)
  | [], _ => []
  | (c, op) :: rest, s => (exec c fuel op s).res :: resultsOf fuel rest (exec c fuel op s).f

/-- **C01, assertions, histories**: along any well-formed history from a consistent forest, no call
ends with `AssertionError` -/
theorem no_assertion_history (fuel : Nat) (hist : List (Cfg × Op)) :
    ∀ s, Inv s → WellFormedHistory fuel hist s →
      ∀ r ∈ resultsOf fuel hist s, r ≠ .error .assertion := by
  induction hist with
  | nil => intro s _ _ r hr; simp [resultsOf] at hr
  | cons co rest ih =>
    intro s h hwf r hr
    obtain ⟨c, op⟩ := co
    simp only [resultsOf, List.mem_cons] at hr
    rcases hr with e | hr
    · rw [e]; exact no_assertion_exec c fuel op s h hwf.1
    · exact ih _ (inv_exec c fuel op s h hwf.1) hwf.2 r hr

end Anytree.Props.C01
