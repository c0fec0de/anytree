import Anytree.Lemmas.Iter
/-!
# C06 — filter_, stop and maxlevel restrict all five iterators in the same, compositional way

For **every** tree `t`, every `filter_ stop : Tree α → Bool` and every `maxlevel : Option Int`
the mirror of each iterator equals the textbook traversal of the admitted tree (`Spec.admitT`)
followed by `filter_`.  No bound on size, depth or `maxlevel`.
-/
namespace Anytree.Props.C06
open Tree Iter Spec
variable {α : Type}

/-- C06 for `PreOrderIter(t, filter_, stop, maxlevel)`: the pre-order of what `stop` and `maxlevel`
admit (`Spec.admitT`), then `filter_` (`preSpec`) -/
theorem preIter_spec (F S : Tree α → Bool) (m : Option Int) (t : Tree α) :
    preIter F S m t = preSpec F S m t := by
  unfold preIter preSpec
  rcases start_cases S m t with ⟨h, _, hn⟩ | ⟨h, hc, _⟩
  · rw [h, hn]; rfl
  · rw [h, Iter.preL, Iter.preL, List.append_nil, preT_spec F S t m hc]

/-- … `PostOrderIter`: the post-order of the same admitted tree, then `filter_` -/
theorem postIter_spec (F S : Tree α → Bool) (m : Option Int) (t : Tree α) :
    postIter F S m t = postSpec F S m t := by
  unfold postIter postSpec
  rcases start_cases S m t with ⟨_, ha, hn⟩ | ⟨_, hc, hs⟩
  · rw [hn]
    cases h1 : abortAt 1 m with
    | true => rfl
    | false => simp only [h1, Bool.false_or] at ha; simp [Iter.postL, ha, optPost]
  · have := postT_spec F S m t 1 (by rw [maxlevelAt_one]; exact hc) hs
    rw [maxlevelAt_one] at this
    simp [abortAt_eq_cut, maxlevelAt_one, hc, Iter.postL, hs, this]

/-- … `LevelOrderGroupIter`: its levels, `filter_` applied within each (a level may come out empty) -/
theorem groupIter_spec (F S : Tree α → Bool) (m : Option Int) (t : Tree α) :
    groupIter F S m t = groupSpec F S m t := by
  unfold groupIter groupSpec
  rcases start_cases S m t with ⟨h, _, hn⟩ | ⟨h, hc, hs⟩
  · rw [h, hn, groupLoop]; rfl
  · have hg := groupLoop_spec F S m 1 [t] (by rw [maxlevelAt_one]; exact hc) (by simp [getChildren, hs])
    rw [maxlevelAt_one] at hg
    simp only [h, hg, admitL, admitT_of_ok S m t hc hs, optLevels, levels_eq_levelsL,
      List.append_nil]

/-- … `LevelOrderIter`: its levels concatenated, then `filter_` -/
theorem levelIter_spec (F S : Tree α → Bool) (m : Option Int) (t : Tree α) :
    levelIter F S m t = levelSpec F S m t := by
  have h := groupIter_spec F S m t
  unfold groupIter groupSpec at h
  unfold levelIter levelSpec
  rw [levelLoop_eq_group, h, List.filter_flatten]

/-- … `ZigZagGroupIter`: the filtered levels, every second one reversed -/
theorem zigzagIter_spec (F S : Tree α → Bool) (m : Option Int) (t : Tree α) :
    zigzagIter F S m t = zigzagIterSpec F S m t := by
  unfold zigzagIter zigzagIterSpec
  rcases start_cases S m t with ⟨h, _, hn⟩ | ⟨h, _, _⟩
  · rw [h, hn]; rfl
  · simp only [h, zzPairs_eq, groupIter_spec, groupSpec]

/-- nothing admitted, nothing yielded: each of the five specifications reads `[]` off
`admitT S m t = none` -/
theorem nil_of_admitT_none (F S : Tree α → Bool) (m : Option Int) (t : Tree α) (h : admitT S m t = none) :
    preIter F S m t = [] ∧ postIter F S m t = [] ∧ levelIter F S m t = [] ∧
    groupIter F S m t = [] ∧ zigzagIter F S m t = [] := by
  rw [preIter_spec, postIter_spec, levelIter_spec, groupIter_spec, zigzagIter_spec]
  simp [preSpec, postSpec, levelSpec, groupSpec, zigzagIterSpec, h, optPre, optPost, optLevels, zigzagSpec]

/-- `maxlevel <= 0` yields nothing, for all five -/
theorem maxlevel_nonpos_nil (F S : Tree α → Bool) (k : Int) (hk : k ≤ 0) (t : Tree α) :
    preIter F S (some k) t = [] ∧ postIter F S (some k) t = [] ∧ levelIter F S (some k) t = [] ∧
    groupIter F S (some k) t = [] ∧ zigzagIter F S (some k) t = [] :=
  nil_of_admitT_none F S _ t (admitT_of_cut S _ t (by simp [cut, hk]))

/-- a start node that satisfies `stop` yields nothing: the start node is subject to `stop` -/
theorem stop_start_nil (F S : Tree α → Bool) (m : Option Int) (t : Tree α) (hs : S t = true) :
    preIter F S m t = [] ∧ postIter F S m t = [] ∧ levelIter F S m t = [] ∧
    groupIter F S m t = [] ∧ zigzagIter F S m t = [] :=
  nil_of_admitT_none F S m t (admitT_of_stop S _ t hs)

/-- the grouped iterators concatenate to the level-order iterator, under every restriction -/
theorem group_flatten_eq_level (F S : Tree α → Bool) (m : Option Int) (t : Tree α) :
    (groupIter F S m t).flatten = levelIter F S m t := by
  unfold groupIter levelIter
  rw [levelLoop_eq_group]

example :
    let t : Tree Nat := node 0 [node 1 [node 3 [], node 4 []], node 2 [node 5 [node 6 []]]]
    (preSpec (fun n => n.label != 2) (fun n => n.label == 4) (some 2) t).map label = [0, 1] ∧
    (groupSpec (fun n => n.label != 2) (fun n => n.label == 4) (some 3) t).map (List.map label)
      = [[0], [1], [3, 5]] := by
  decide

end Anytree.Props.C06
