import Anytree.Props.C02r
/-!
# C01/C02/C16 — the children deleter during which one child's detach hook detaches ANOTHER node

Companion of `C02r` for `del n.children` (and hence for the delete phase of `n.children = xs`): the detach hook of one child
`x` of `n` executes `y.parent = None` for a node `y ≠ x`.  The call ends exactly where `y.parent = None` followed by
`del n.children` ends; if `y` is itself a child of `n` that is simply where `del n.children` alone ends.
-/
namespace Anytree.Props.C02s

/-- the final forest, spelled with the specification's link updates: all former children of `n` detached, and `y` -/
theorem delChildrenR_forest (c : Cfg) (hφ : c.φ = noFaults) (fuel n x pos y : Nat) (s : Forest)
    (h : Inv s) (hx : x ∈ s.children n) (hyx : y ≠ x) (hpos : pos < 2) (hfuel : s.n < fuel) :
    (delChildrenR c fuel n x pos y ⟨s, [], 0⟩).2.f =
      Spec.detached (Spec.detachAll s (s.children n)).1 y := by
  obtain ⟨w1, e1, f1⟩ := steps_delChildrenR hφ fuel n x pos y h hfuel hx hyx hpos ⟨s, [], 0⟩ rfl
  rw [e1]; exact f1

/-- **sequentialisation for the deleter**: `del n.children` during which a detach hook of the child `x` runs
`y.parent = None` ends in the same forest as `y.parent = None` followed by `del n.children`, and both return -/
theorem delChildrenR_eq_seq (c : Cfg) (hφ : c.φ = noFaults) (fuel n x pos y : Nat) (s : Forest)
    (h : Inv s) (hn : n < s.n) (hy : y < s.n) (hx : x ∈ s.children n) (hyx : y ≠ x) (hpos : pos < 2)
    (hfuel : s.n < fuel) :
    let r := delChildrenR c fuel n x pos y ⟨s, [], 0⟩
    let q := (setParent c fuel y none ⨾ delChildren c fuel n) ⟨s, [], 0⟩
    r.1 = .ok () ∧ q.1 = .ok () ∧ r.2.f = q.2.f := by
  obtain ⟨w1, e1, f1⟩ := steps_delChildrenR hφ fuel n x pos y h hfuel hx hyx hpos ⟨s, [], 0⟩ rfl
  obtain ⟨w2, e2, f2⟩ := steps_detach_then_delChildren hφ fuel n y h hfuel ⟨s, [], 0⟩ rfl
  simp only [e1, e2, f1, f2, and_self]

/-- if the node the hook detaches is a child of `n` itself, the result is that of the plain deleter -/
theorem delChildrenR_sibling (c : Cfg) (hφ : c.φ = noFaults) (fuel n x pos y : Nat) (s : Forest)
    (h : Inv s) (hn : n < s.n) (hx : x ∈ s.children n) (hy : y ∈ s.children n) (hyx : y ≠ x) (hpos : pos < 2)
    (hfuel : s.n < fuel) :
    (delChildrenR c fuel n x pos y ⟨s, [], 0⟩).2.f = (delChildren c fuel n ⟨s, [], 0⟩).2.f := by
  obtain ⟨w2, e2, f2⟩ := steps_delChildren hφ fuel n h hfuel ⟨s, [], 0⟩ rfl
  rw [delChildrenR_forest c hφ fuel n x pos y s h hx hyx hpos hfuel, e2,
    Spec.detached_root (Spec.detachAll_parent_mem s hy)]
  exact f2.symm

/-- **C01 with a re-entrant hook in the deleter**: the forest is consistent after such a call -/
theorem inv_delChildrenR (c : Cfg) (hφ : c.φ = noFaults) (fuel n x pos y : Nat) (s : Forest)
    (h : Inv s) (hn : n < s.n) (hy : y < s.n) (hx : x ∈ s.children n) (hyx : y ≠ x) (hpos : pos < 2)
    (hfuel : s.n < fuel) :
    Inv (delChildrenR c fuel n x pos y ⟨s, [], 0⟩).2.f := by
  rw [delChildrenR_forest c hφ fuel n x pos y s h hx hyx hpos hfuel]
  exact Spec.inv_detached (Spec.inv_detachAll h _) y

end Anytree.Props.C02s
