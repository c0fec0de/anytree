import Anytree.Props.C01c
import Anytree.Lemmas.Faults
/-!
# C01/C02/C03 — the fuel of the mirror is never the reason for an outcome, **with** hook faults

`C01c.fuel_suffices` covers calls without hook faults.  With faults the restore of the children
setter re-enters the setter once per failure of its attach phase, so the recursion depth depends on
the fault schedule: a *persistent* fault recurses for ever (`C03.K4_persistent_preAttachChildren_diverges`;
Python: `RecursionError`).  Here: when the schedule can only strike at invocation counters below `B`
(every finite schedule, in particular every one-shot fault, has such a bound), a fuel above
`s.n + B + 5` is never exhausted — `diverged` is never the mirror's answer.

Why the depth is bounded by `B + 2`: a level of the restore is entered only after a failure of the
attach phase one level up; below the first level that failure is a fault (the old children of `n` are
never on its chain), which sits below `B` and moves the counter on (`FuelShort`, `Lemmas/Walk.lean`).
-/
namespace Anytree.Props.C01d

/-- the schedule can only strike at invocation counters below `B` (`QuietFrom c B` of
`Lemmas/Plan.lean`, stated of the schedule alone) -/
def FaultsBelow (φ : Faults) (B : Nat) : Prop := ∀ i k m, B ≤ i → φ i k m = false

/-- **fuel suffices, with faults**: on a consistent forest, with in-range arguments and a fault schedule
bounded by `B`, a fuel above `s.n + B + 5` is never exhausted -/
theorem fuel_suffices_faults (c : Cfg) (B : Nat) (hφ : FaultsBelow c.φ B) (fuel : Nat) (op : Op)
    (s : Forest) (h : Inv s) (hwf : C01.WellFormed s op) (hfuel : s.n + B + 5 < fuel) :
    (exec c fuel op s).res ≠ .error .diverged :=
  (C01.exec_onRaise c fuel op s h hwf).ne_diverged B hφ (by omega)

/-- the bound is about the schedule, not about the call: one-shot faults (a single counter `i`) -/
theorem fuel_suffices_oneshot (c : Cfg) (i : Nat) (hφ : ∀ j k m, j ≠ i → c.φ j k m = false)
    (fuel : Nat) (op : Op) (s : Forest) (h : Inv s) (hwf : C01.WellFormed s op)
    (hfuel : s.n + i + 6 < fuel) :
    (exec c fuel op s).res ≠ .error .diverged :=
  fuel_suffices_faults c (i + 1) (fun j k m hj => hφ j k m (Nat.ne_of_gt hj)) fuel op s h hwf hfuel

/-- non-vacuity: a faulted call on a concrete forest meets the hypotheses (fault at counter 2) -/
example : FaultsBelow (fun i _ _ => i == 2) 3 := by
  intro i k m h; simp; omega

-- … on the six-node forest `C01.s6` (`s.n + B + 5 = 14`): with a fuel of 15 the vetoed children
-- assignment ends with the hook's exception; a fuel of 1 is exhausted by the restore
example : raised (exec ⟨.nm, true, fun i _ _ => i == 2⟩ 15 (.setChildren 2 (some [.node 3])) C01.s6).res
      = some (.hook 2 .preAttachChildren 2) ∧
    raised (exec ⟨.nm, true, fun i _ _ => i == 2⟩ 1 (.setChildren 2 (some [.node 3])) C01.s6).res
      = some .diverged := by decide

end Anytree.Props.C01d
