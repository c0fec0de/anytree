import Anytree.Lemmas.Render
/-!
# C09 — RenderTree draws every tree faithfully; prefixes encode each node's position

The rows of the mirror are `Spec.rowsS`: one row per node of the rendered view, in pre-order, `pre`/`fill`
a function of the node's address in the view.  With an equal-width style both have one segment per level,
so the depths of the rows can be read off the drawing, and they determine the shape (`decode_rows`).
-/
namespace Anytree.Props.C09
open Tree Render Spec
variable {α : Type}

/-- `childiter` only returns children it was given -/
def Selects (childiter : List (Tree α) → List (Tree α)) : Prop :=
  ∀ cs, ∀ x ∈ childiter cs, x ∈ cs

/-- **rows = specification**: one row per node of the rendered view (childiter applied at every
level, cut at depth `max(maxlevel, 1)`), in pre-order, `pre`/`fill` the stated function of the
node's address in the view -/
theorem rows_eq_spec (style : Style) (childiter : List (Tree α) → List (Tree α))
    (maxlevel : Option Int) (t : Tree α) :
    (rows style childiter maxlevel t).map (fun r => (r.pre, r.fill, r.node.label)) =
      rowsS style childiter maxlevel t := by
  rw [rowsS_eq]
  exact nextF_eq_specRows style childiter maxlevel (t.height + 1) t [] 0

/-- the root's `pre` and `fill` are empty (this and the next two theorems are about the specification
`rowsS`/`prefixesAt`; `rows_eq_spec` carries them to the mirror) -/
theorem root_row_empty (style : Style) (childiter : List (Tree α) → List (Tree α))
    (maxlevel : Option Int) (t : Tree α) :
    (rowsS style childiter maxlevel t).head? = some ("", "", t.label) := by
  cases t with
  | node a cs => rw [rowsS_eq, renderView_succ, specRows_node, pf_nil]; rfl

/-- `maxlevel ≤ 1` (including 0 and negative values) renders the start node only -/
theorem maxlevel_le_one (style : Style) (childiter : List (Tree α) → List (Tree α)) (k : Int)
    (hk : k ≤ 1) (t : Tree α) : rowsS style childiter (some k) t = [("", "", t.label)] := by
  cases t with
  | node a cs =>
    have hd : descend (some k) 0 = false := by simp [descend]; omega
    rw [rowsS_eq, renderView_succ, hd, if_neg Bool.false_ne_true, specRows_leaf, pf_nil]; rfl

def EqualWidth (s : Style) (w : Nat) : Prop :=
  s.vertical.length = w ∧ s.cont.length = w ∧ s.end_.length = w

/-- for a node at depth `d`, `pre` and `fill` both have `d` segments of the style's width -/
theorem row_width (style : Style) (w : Nat) (hw : EqualWidth style w) (v : Tree α) (a : Addr) :
    (prefixesAt style v a).1.length = a.length * w ∧ (prefixesAt style v a).2.length = a.length * w := by
  obtain ⟨hv, hc, he⟩ := hw
  have := pf_length style w hv hc he (flagsAt v a)
  rw [length_flagsAt] at this
  exact this

/-- the four built-in styles (extracted from the source on every run) have equal widths -/
theorem builtin_styles_equal_width :
    ∀ e ∈ Generated.styles, e.2.1.length = e.2.2.1.length ∧ e.2.2.1.length = e.2.2.2.length ∧ 0 < e.2.1.length := by
  decide +kernel

/-- flag `j` of a node is "its ancestor-or-self at depth `j+1` has a following sibling in the view" (the
definition of `flagsAt`, read at one index); `Spec.pf` makes segment `j` of `fill` the vertical bar iff flag
`j` is set and the last segment of `pre` the continue branch iff the last flag is -/
theorem flagsAt_spec (v : Tree α) (a : Addr) (j : Nat) (hj : j < a.length) :
    (flagsAt v a)[j]? = some (decide (a.getD j 0 + 1 < nkids v (a.take j))) := by
  simp [flagsAt, hj]

/-- **the shape of the rendered subtree can be reconstructed from the drawing alone**: the depths of
the rows (with an equal-width style: `fill.length / w`) determine the shape of the view -/
theorem decode_rows (v : Tree α) : treeOfDepths ((addrs v).map List.length) = some (shape v) := by
  have h := forestOfDepths_depths (((addrs v).map List.length).length + 1) [v] 0 []
    (by simp [sizeL, length_addrs]) (by simp)
  simp only [List.flatMap_cons, List.flatMap_nil, List.append_nil, Nat.add_zero] at h
  rw [treeOfDepths, h]; rfl

/-- `str()`/`by_attr()`: `pre` + first line, `fill` + each further line; an empty value still
produces one line -/
theorem formatRow_spec (r : Row α) (lines : List String) :
    formatRow r lines =
      (r.pre ++ lines.headD "") :: lines.tail.map (fun x => r.fill ++ x) := by
  cases lines <;> rfl

theorem formatRow_nonempty (r : Row α) (lines : List String) : formatRow r lines ≠ [] := by
  cases lines <;> simp [formatRow]

example : (rowsS (⟨"|  ", "|- ", "+- "⟩ : Style) id none
    (node 0 [node 1 [node 3 []], node 2 []] : Tree Nat)) =
    [("", "", 0), ("|- ", "|  ", 1), ("|  +- ", "|     ", 3), ("+- ", "   ", 2)] := by decide

end Anytree.Props.C09
