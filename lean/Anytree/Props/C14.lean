import Anytree.Spec.Search
import Anytree.Props.C06
/-!
# C14 — search functions return the filtered pre-order and enforce their count bounds

`findall` is `PreOrderIter` (C06) followed by the two count tests, the lower bound first; `find` is `findall`
with `maxcount = 1`; the by-attribute variants are the same with the attribute filter.
-/
namespace Anytree.Props.C14
open Tree
variable {α : Type}

/-- `findall` = the specification: the matches are exactly what `PreOrderIter` yields (by C06: the
filtered pre-order of the admitted tree); `CountError` iff the count is below `mincount` or above
`maxcount`, the lower bound first, carrying the bound and the count -/
theorem findall_eq_spec (F S : Tree α → Bool) (m mn mx : Option Int) (t : Tree α) :
    Search.findall F S m mn mx t = Spec.findallS F S m mn mx t := by
  unfold Search.findall Spec.findallS Spec.matchesS
  rw [C06.preIter_spec]
  cases mn with
  | none =>
    cases mx with
    | none => rfl
    | some b => simp only [Option.any_none, Bool.false_eq_true, if_false, Option.any_some,
        decide_eq_true_eq, Option.getD_some]
  | some a =>
    simp only [Option.any_some, decide_eq_true_eq, Option.getD_some]
    by_cases h : ((Spec.preSpec F S m t).length : Int) < a
    · rw [if_pos h, if_pos h]
    · rw [if_neg h, if_neg h]
      cases mx with
      | none => rfl
      | some b => simp only [Option.any_some, decide_eq_true_eq, Option.getD_some]

/-- what a successful `findall` returns is what `PreOrderIter` yields for the same arguments -/
theorem findall_ok_eq_preIter (F S : Tree α → Bool) (m mn mx : Option Int) (t : Tree α)
    (r : List (Tree α)) (h : Search.findall F S m mn mx t = .ok r) : r = Iter.preIter F S m t := by
  rw [findall_eq_spec] at h
  dsimp only [Spec.findallS] at h
  -- only the last branch of the specification returns `.ok`
  by_cases h1 : mn.any (fun k => decide (((Spec.matchesS F S m t).length : Int) < k)) = true
  · rw [if_pos h1] at h; cases h
  · rw [if_neg h1] at h
    by_cases h2 : mx.any (fun k => decide (((Spec.matchesS F S m t).length : Int) > k)) = true
    · rw [if_pos h2] at h; cases h
    · rw [if_neg h2] at h; cases h; exact (C06.preIter_spec F S m t).symm

/-- `CountError` if and only if the number of matches is below `mincount` or above `maxcount` -/
theorem findall_countError_iff (F S : Tree α → Bool) (m mn mx : Option Int) (t : Tree α) :
    (∃ a b c, Search.findall F S m mn mx t = .countError a b c) ↔
      ((∃ k, mn = some k ∧ ((Iter.preIter F S m t).length : Int) < k) ∨
       (∃ k, mx = some k ∧ ((Iter.preIter F S m t).length : Int) > k)) := by
  rw [findall_eq_spec, C06.preIter_spec, ← Spec.matchesS]
  dsimp only [Spec.findallS]
  generalize Spec.matchesS F S m t = r
  -- the two tests of the specification are the two disjuncts
  have hA : ∀ (o : Option Int) (p : Int → Prop) [DecidablePred p],
      o.any (fun k => decide (p k)) = true ↔ ∃ k, o = some k ∧ p k := by
    intro o p _; cases o <;> simp
  by_cases h1 : mn.any (fun k => decide ((r.length : Int) < k)) = true
  · rw [if_pos h1]; exact ⟨fun _ => Or.inl ((hA mn _).mp h1), fun _ => ⟨_, _, _, rfl⟩⟩
  · rw [if_neg h1]
    by_cases h2 : mx.any (fun k => decide ((r.length : Int) > k)) = true
    · rw [if_pos h2]; exact ⟨fun _ => Or.inr ((hA mx _).mp h2), fun _ => ⟨_, _, _, rfl⟩⟩
    · rw [if_neg h2]
      constructor
      · rintro ⟨_, _, _, h⟩; cases h
      · rintro (h | h)
        · exact absurd ((hA mn _).mpr h) h1
        · exact absurd ((hA mx _).mpr h) h2

/-- `find`: `None` for no match, the node for exactly one, `CountError` for more than one -/
theorem find_eq_spec (F S : Tree α → Bool) (m : Option Int) (t : Tree α) :
    Search.find F S m t = Spec.findS F S m t := by
  unfold Search.find Spec.findS
  rw [findall_eq_spec]
  unfold Spec.findallS
  generalize Spec.matchesS F S m t = r
  match r with
  | [] => simp
  | [x] => simp
  | x :: y :: rest =>
    simp only [Option.any_none, Bool.false_eq_true, if_false, Option.any_some, List.length_cons]
    have : (1 : Int) < (rest.length : Int) + 1 + 1 := by omega
    simp [this]

/-- the attribute filter selects exactly the nodes whose attribute exists and equals the value;
a node lacking the attribute is skipped (never an error) -/
theorem filterByName_iff {V : Type} [DecidableEq V] (attr : Tree α → String → Option V)
    (name : String) (value : V) (n : Tree α) :
    Search.filterByName attr name value n = true ↔ attr n name = some value := by
  unfold Search.filterByName
  cases attr n name <;> simp

theorem filterByName_eq {V : Type} [DecidableEq V] (attr : Tree α → String → Option V)
    (name : String) (value : V) :
    Search.filterByName attr name value = fun n => decide (attr n name = some value) :=
  funext fun n => by rw [Bool.eq_iff_iff, filterByName_iff]; simp

theorem findallByAttr_eq_spec {V : Type} [DecidableEq V] (attr : Tree α → String → Option V)
    (value : V) (name : String) (m mn mx : Option Int) (t : Tree α) :
    Search.findallByAttr attr value name m mn mx t =
      Spec.findallS (fun n => decide (attr n name = some value)) (fun _ => false) m mn mx t := by
  unfold Search.findallByAttr
  rw [findall_eq_spec, filterByName_eq]

theorem findByAttr_eq_spec {V : Type} [DecidableEq V] (attr : Tree α → String → Option V)
    (value : V) (name : String) (m : Option Int) (t : Tree α) :
    Search.findByAttr attr value name m t =
      Spec.findS (fun n => decide (attr n name = some value)) (fun _ => false) m t := by
  unfold Search.findByAttr
  rw [find_eq_spec, filterByName_eq]

/-- the cached variants forward every argument -/
theorem cached_eq : @Search.cachedFindall = @Search.findall ∧ @Search.cachedFind = @Search.find :=
  ⟨rfl, rfl⟩

example :
    let t : Tree Nat := node 0 [node 1 [], node 2 []]
    (match Search.findall (fun n => n.label != 0) (fun _ => false) none none (some 1) t with
     | .countError false 1 2 => true | _ => false) = true ∧
    (match Search.findall (fun n => n.label != 0) (fun _ => false) none (some 2) none t with
     | .ok r => r.map label | _ => []) = [1, 2] := by
  decide

end Anytree.Props.C14
