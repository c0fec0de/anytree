import Anytree.Props.C05
/-!
# C05, "exactly once" spelled out for all five iterators

Per iterator, on the *mirror* (not on the textbook traversal) and with default arguments: each of
the five yields exactly `size t` nodes, yields a payload iff the pre-order does, and — under pairwise
distinct payloads — yields no node twice.  All are read off the permutation theorems of C05.
-/
namespace Anytree.Props.C05c
open Tree Iter C05
variable {α : Type}

/-- the pre-order lists as many payloads as the tree has nodes -/
theorem pre_length (t : Tree α) : (pre t).length = size t := by
  induction t using induction_on with
  | h a cs ih =>
    rw [pre_eq_cons, List.length_cons, List.length_flatMap, size, sizeL_eq, kids_node, Nat.add_comm,
      List.map_congr_left ih]

theorem levelOrder_decorate (t : Tree α) : (levelOrder (decorate t)).map label = levelOrder t := by
  rw [levelOrder, levelOrder, List.map_flatten, levels_decorate]

theorem postIter_perm (t : Tree α) : ((postIter allF noS none t).map label).Perm (pre t) := by
  rw [postIter_eq, post_decorate]; exact (pre_perm_post t).symm

theorem levelIter_perm (t : Tree α) : ((levelIter allF noS none t).map label).Perm (pre t) := by
  rw [levelIter_eq, levelOrder_decorate]; exact pre_perm_levelOrder t

theorem groupIter_perm (t : Tree α) :
    ((groupIter allF noS none t).flatten.map label).Perm (pre t) := by
  rw [group_flatten_eq_level]; exact levelIter_perm t

theorem zigzagIter_perm (t : Tree α) :
    ((zigzagIter allF noS none t).flatten.map label).Perm (pre t) := by
  rw [zigzagIter_eq]
  refine ((zigzag_flatten_perm _).map label).trans ?_
  have h := levelIter_perm t
  rw [levelIter_eq] at h
  exact h

theorem preIter_length (t : Tree α) : (preIter allF noS none t).length = size t := by
  rw [preIter_eq, ← pre_length, ← pre_decorate t, List.length_map]

theorem postIter_length (t : Tree α) : (postIter allF noS none t).length = size t := by
  simpa [pre_length] using (postIter_perm t).length_eq

theorem levelIter_length (t : Tree α) : (levelIter allF noS none t).length = size t := by
  simpa [pre_length] using (levelIter_perm t).length_eq

theorem groupIter_length (t : Tree α) : (groupIter allF noS none t).flatten.length = size t := by
  have h := (groupIter_perm t).length_eq
  rw [List.length_map, pre_length] at h; exact h

theorem zigzagIter_length (t : Tree α) : (zigzagIter allF noS none t).flatten.length = size t := by
  have h := (zigzagIter_perm t).length_eq
  rw [List.length_map, pre_length] at h; exact h

theorem postIter_mem (t : Tree α) (x : α) :
    x ∈ (postIter allF noS none t).map label ↔ x ∈ pre t := (postIter_perm t).mem_iff

theorem levelIter_mem (t : Tree α) (x : α) :
    x ∈ (levelIter allF noS none t).map label ↔ x ∈ pre t := (levelIter_perm t).mem_iff

theorem groupIter_mem (t : Tree α) (x : α) :
    x ∈ (groupIter allF noS none t).flatten.map label ↔ x ∈ pre t := (groupIter_perm t).mem_iff

theorem zigzagIter_mem (t : Tree α) (x : α) :
    x ∈ (zigzagIter allF noS none t).flatten.map label ↔ x ∈ pre t := (zigzagIter_perm t).mem_iff

/-- post-order: with pairwise distinct payloads no node is yielded twice -/
theorem postIter_nodup (t : Tree α) (h : (pre t).Nodup) :
    ((postIter allF noS none t).map label).Nodup := (postIter_perm t).nodup_iff.mpr h

/-- level-order: with pairwise distinct payloads no node is yielded twice -/
theorem levelIter_nodup (t : Tree α) (h : (pre t).Nodup) :
    ((levelIter allF noS none t).map label).Nodup := (levelIter_perm t).nodup_iff.mpr h

/-- level-order groups: no node occurs twice, neither within a group nor across groups -/
theorem groupIter_nodup (t : Tree α) (h : (pre t).Nodup) :
    ((groupIter allF noS none t).flatten.map label).Nodup := (groupIter_perm t).nodup_iff.mpr h

/-- zig-zag groups: no node occurs twice, neither within a group nor across groups -/
theorem zigzagIter_nodup (t : Tree α) (h : (pre t).Nodup) :
    ((zigzagIter allF noS none t).flatten.map label).Nodup := (zigzagIter_perm t).nodup_iff.mpr h

example : let t : Tree Nat := node 0 [node 1 [node 3 [], node 4 []], node 2 [node 5 []]]
    (pre t).Nodup ∧ size t = 6 := by decide
example : ((zigzagIter allF noS none
    (node 0 [node 1 [node 3 [], node 4 []], node 2 [node 5 []]] : Tree Nat)).flatten.map label)
      = [0, 2, 1, 3, 4, 5] := by rw [zigzagIter_eq]; decide

end Anytree.Props.C05c
