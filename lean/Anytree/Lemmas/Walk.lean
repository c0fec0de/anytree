import Anytree.Lemmas.Calls
/-!
The deleter and the `try` block of the children setter are plans (`Lemmas/Calls.lean`).
`setChildrenNodes_walk` carries through the recursive restore the strongest invariant the properties
need: the forest stays consistent over the same objects, the ancestor chain of `n` is untouched, the
counter only grows, and an exception is a scheduled hook fault (numbered from the entry counter on), a
`LoopError`, or `diverged` when the fuel is short (`FuelShort`) — never an assertion.  Per call this is
`OnRaise`, and `OnRaise.exec` reads off it what a whole call guarantees of its result and final forest
(`Safe`); the theorems of Props/C01, C01b, C01c/d are projections of that — only
`C01.no_assertion_setParent` (Props/C01b.lean), which has no well-formedness hypothesis, is read off the
plan of the parent setter directly.
-/
namespace Anytree

/-- what a structural call raises: a hook fault the schedule asked for, numbered `lo ≤ i < cnt`, or
one of its own refusals, which are in `S` -/
def Raised (c : Cfg) (lo : Nat) (S : Err → Prop) (e : Err) (w : World) : Prop :=
  (∃ i k m, e = .hook i k m ∧ c.φ i k m = true ∧ lo ≤ i ∧ i < w.cnt) ∨ S e

namespace Raised
variable {c : Cfg} {lo lo' : Nat} {S S' : Err → Prop} {e : Err} {w w' : World}

theorem mono (hS : S e → S' e) (h : Raised c lo S e w) : Raised c lo S' e w := h.imp_right hS

theorem later (h : Raised c lo S e w) (hlo : lo' ≤ lo) (hc : w.cnt ≤ w'.cnt) :
    Raised c lo' S e w' :=
  h.imp_left fun ⟨i, k, m, he, hf, h1, h2⟩ =>
    ⟨i, k, m, he, hf, Nat.le_trans hlo h1, Nat.lt_of_lt_of_le h2 hc⟩

/-- a fault moves the counter on, below every bound of the schedule -/
theorem fault_or (h : Raised c lo S e w) (B : Nat) (hB : QuietFrom c B) :
    (lo < B ∧ lo < w.cnt) ∨ S e :=
  h.imp_left fun ⟨i, kd, m, _, hf, h1, h2⟩ =>
    ⟨Nat.lt_of_le_of_lt h1 (Nat.lt_of_not_le fun h => by rw [hB i kd m h] at hf; cases hf),
      Nat.lt_of_le_of_lt h1 h2⟩

end Raised

/-- a forest predicate together with a lower bound of the invocation counter -/
structure WithCnt (F : Forest → Prop) (lo : Nat) (w : World) : Prop where
  forest : F w.f
  le_cnt : lo ≤ w.cnt

theorem Plan.run_walk {c : Cfg} {F F' : Forest → Prop} {P : Plan} {S : Err → Prop} (hA : P.All F)
    (hR : P.Refuses S) (lo : Nat) :
    Triple (WithCnt F' lo) (P.run c) (WithCnt F lo) (fun e w => WithCnt F lo w ∧ Raised c lo S e w) := fun w hw => by
  have hW : WithCnt F lo (P.run c w).2 := ⟨hA.run c w, Nat.le_trans hw.le_cnt (Plan.run_cnt c P w)⟩
  have hE := fun e => Plan.run_err (c := c) (P := P) (w := w) (e := e)
  cases hr : P.run c w with
  | mk r w' =>
    rw [hr] at hW hE
    cases r with
    | ok u => exact hW
    | error e =>
      refine ⟨hW, ?_⟩
      rcases hE e rfl with ⟨hr, _⟩ | ⟨_, _, i, he, hf, hi, hc, _⟩
      · exact Or.inr (hR e hr)
      · exact Or.inl ⟨i, _, _, he, hf, Nat.le_trans hw.le_cnt hi, hc ▸ Nat.lt_succ_self i⟩

/-- when the children setter may answer `diverged`: the fuel is short.  For every bound `B` of the
schedule, `k + d + 2` is enough, where `d` is what is left of `B` above the entry counter `lo` — one
more if the new children hold `n` or an ancestor of `n` (`L`): a level of the restore is entered
only after a failure of the `try` block; that failure is a `LoopError` at most once (the old
children of `n` are not on its chain), and otherwise a fault, which moves the counter on below `B` -/
def FuelShort (c : Cfg) (k fuel lo : Nat) (L : Prop) : Prop :=
  ∀ B, QuietFrom c B → ∀ d, B ≤ lo + d →
    fuel < k + d + 3 ∧ (¬L → fuel < k + d + 2)

namespace FuelShort
variable {c : Cfg} {k fuel lo lo' : Nat} {L L' : Prop}

theorem zero : FuelShort c k 0 lo L := fun _ _ _ _ => ⟨Nat.succ_pos _, fun _ => Nat.succ_pos _⟩

/-- the loop check ran dry -/
theorem of_not_lt (hf : ¬k < fuel) : FuelShort c k (fuel + 1) lo L :=
  fun _ _ _ _ => ⟨by omega, fun _ => by omega⟩

/-- the restore ran dry, one level down, entered at the counter `lo'` after a failure of the `try`
block that was a fault or the one `LoopError` -/
theorem succ (hS : FuelShort c k fuel lo' L') (hL' : ¬L') (hle : lo ≤ lo')
    (hkey : ∀ B, QuietFrom c B → (lo < B ∧ lo < lo') ∨ L) :
    FuelShort c k (fuel + 1) lo L := fun B hB d hd => by
  rcases hkey B hB with ⟨h1, h2⟩ | hL
  · cases d with
    | zero => exact absurd hd (Nat.not_le.2 h1)
    | succ d =>
      have := (hS B hB d (by omega)).2 hL'
      exact ⟨Nat.succ_lt_succ (Nat.lt_succ_of_lt this), fun _ => Nat.succ_lt_succ this⟩
  · have := (hS B hB d (Nat.le_trans hd (Nat.add_le_add_right hle d))).2 hL'
    exact ⟨Nat.succ_lt_succ this, fun h => absurd hL h⟩

end FuelShort

/-- the children setter with its recursive restore, from a forest that is consistent over `k` objects and
in which the chain of `n` is `ch`, entered at counter `lo`: both are kept, returning or raising; what is
raised is a fault scheduled from `lo` on, a `LoopError` only if an element is on the chain of `n`, or
`diverged` only if the fuel is short (`FuelShort`, whose last argument says whether a `LoopError` can
still cost a level) -/
theorem setChildrenNodes_walk (k : Nat) (c : Cfg) :
    ∀ (fuel n : Nat) (xs : List Nat) (ch : Nat → Option Nat) (lo : Nat), n < k → (∀ x ∈ xs, x < k) →
      xs.Nodup →
      Triple (WithCnt (Chained k n ch) lo) (setChildrenNodes c fuel n xs) (WithCnt (Chained k n ch) lo)
        (fun e w => WithCnt (Chained k n ch) lo w ∧ Raised c lo (fun e =>
          (e = .loopError ∧ ∃ x ∈ xs, ∃ j, ch j = some x) ∨
          (e = .diverged ∧ FuelShort c k fuel lo (∃ x ∈ xs, ∃ j, ch j = some x))) e w) := by
  intro fuel
  induction fuel with
  | zero =>
    intro n xs ch lo _ _ _
    unfold setChildrenNodes
    exact Triple.throw _ fun _ h => And.intro h (Or.inr (Or.inr ⟨rfl, .zero⟩))
  | succ fuel ih =>
    intro n xs ch lo hn hxs hnd w hw
    have hC : Chained k n ch w.f := hw.forest
    have hi : Inv w.f := hC.inv
    rw [setChildrenNodes_succ c fuel w hC.toInvSize hn hxs hnd]
    let L : Prop := ∃ x ∈ xs, ∃ j, ch j = some x
    let E : Err → World → Prop := fun e w => WithCnt (Chained k n ch) lo w ∧
      Raised c lo (fun e => (e = .loopError ∧ L) ∨ (e = .diverged ∧ FuelShort c k (fuel + 1) lo L)) e w
    have hD := delChildrenPlan_chained hC
    have hA := attachPhasePlan_chained (fuel := fuel) ((delChildrenPlan_spec w.f n).final ▸ hD.2) c.fl
      hn hxs
    refine (Triple.seq (E := E) (Plan.run_walk hD (.of_ok (delChildrenPlan_spec w.f n).res) lo)
      (Triple.tryCatch (Plan.run_walk hA.1 hA.2 lo) fun e => ?_)).run hw
    by_cases hne : e = .diverged
    · subst hne
      exact Triple.throw _ fun _ h => ⟨h.1, h.2.mono (Or.imp_right (And.imp_right .of_not_lt))⟩
    · rw [restoreM_ne c fuel n _ hne]
      rintro w3 ⟨⟨hC3, hlo3⟩, hr3⟩
      -- the old children are not on the chain of `n`: the restore raises no `LoopError` of its own
      have hold : ¬∃ x ∈ w.f.children n, ∃ j, ch j = some x := fun ⟨x, hx, j, hj⟩ =>
        hi.child_not_on_chain hx j (by rw [hC.chain]; exact hj)
      -- the failure of the `try` block was a fault, which moved the counter on, or a `LoopError`
      have hkey : ∀ B, QuietFrom c B → (lo < B ∧ lo < w3.cnt) ∨ L :=
        fun B hB => (hr3.fault_or B hB).imp_right fun h =>
          h.elim And.right fun h => absurd h.1 hne
      -- the restore starts at the counter the failed `try` block left
      exact (Triple.seq ((ih n (w.f.children n) ch w3.cnt hn
          (fun x hx => hC.size ▸ hi.child_lt hx) (hi.nodup n)).weaken (E' := E) (fun _ h => h)
          (fun _ h => h) (fun _ _ h => ⟨⟨h.1.forest, Nat.le_trans hlo3 h.1.le_cnt⟩,
            (h.2.later hlo3 (Nat.le_refl _)).mono (Or.imp (fun h => absurd h.2 hold)
              (And.imp_right fun hS => hS.succ hold hlo3 hkey))⟩))
        (Triple.throw _ fun w4 h4 => ⟨⟨h4.forest, Nat.le_trans hlo3 h4.le_cnt⟩,
          (hr3.later (Nat.le_refl _) h4.le_cnt).mono (Or.imp_right (And.imp_right .of_not_lt))⟩)).run
        ⟨hC3, Nat.le_refl _⟩

/-- what every structural call guarantees when it raises `e` in the world `w`; `f_onRaise` is the
triple of `f` with this exceptional postcondition -/
structure OnRaise (c : Cfg) (k fuel : Nat) (e : Err) (w : World) : Prop where
  invSize : InvSize k w.f
  ne_assertion : e ≠ .assertion
  /-- `diverged` only if the fuel is short for every bound of the schedule -/
  short : e = .diverged → ∀ B, QuietFrom c B → fuel < k + B + 3

theorem OnRaise.of_raised {c : Cfg} {k fuel lo : Nat} {S : Err → Prop} {e : Err} {w : World}
    (hG : InvSize k w.f) (h : Raised c lo S e w)
    (hS : S e → e ≠ .assertion ∧ (e = .diverged →
      ∀ B, QuietFrom c B → fuel < k + B + 3)) : OnRaise c k fuel e w := by
  rcases h with ⟨_, _, _, rfl, _⟩ | h
  · exact ⟨hG, (fun h => nomatch h), (fun h => nomatch h)⟩
  · exact ⟨hG, (hS h).1, (hS h).2⟩

theorem OnRaise.refusal {c : Cfg} {k fuel : Nat} {e : Err} {w : World} (hG : InvSize k w.f)
    (he : e = .typeError ∨ e = .treeError ∨ e = .unmodelled) : OnRaise c k fuel e w :=
  ⟨hG, (by rcases he with rfl | rfl | rfl <;> exact fun e => by cases e),
    fun hd => by rcases he with rfl | rfl | rfl <;> cases hd⟩

/-- with enough fuel the plan is the specification, which never answers `diverged` -/
theorem setParentPlan_diverged {k : Nat} {s : Forest} (h : InvSize k s) (fl : Flavor) {fuel : Nat}
    (n : Nat) {v : Option Arg} (hv : ArgOk k v)
    (he : (setParentPlan fl s fuel n v).res = .error .diverged) : ¬k < fuel := fun hk =>
  Spec.setParent_ne_diverged fl s n v
    ((setParentPlan_spec h.inv fl n (h.size ▸ hv) (h.size ▸ hk)).res ▸ he)

theorem IsPlan.onRaise {c : Cfg} {a : M} {k fuel : Nat} {S : Err → Prop} {P : Forest → Plan}
    (hp : ∀ s, InvSize k s → IsPlan c a s (P s) ∧ (P s).All (InvSize k) ∧ (P s).Refuses S)
    (hS : ∀ e, S e → e ≠ .assertion ∧ (e = .diverged → ¬k < fuel)) :
    Triple (onF (InvSize k)) a (onF (InvSize k)) (OnRaise c k fuel) := fun w hw => by
  obtain ⟨h1, h2, h3⟩ := hp w.f hw
  rw [h1 w rfl]
  exact (Plan.run_walk (F' := InvSize k) h2 h3 w.cnt).weaken (P' := (· = w))
    (fun _ e => by rw [e]; exact ⟨hw, Nat.le_refl _⟩) (fun _ h => h.forest) (fun e _ h =>
      OnRaise.of_raised h.1.forest h.2 fun hs =>
        ⟨(hS e hs).1, fun hd _ _ => by have := (hS e hs).2 hd; omega⟩) w rfl

theorem setParent_onRaise (k : Nat) (c : Cfg) (fuel n : Nat) (v : Option Arg) (hn : n < k)
    (hv : ArgOk k v) : Triple (onF (InvSize k)) (setParent c fuel n v) (onF (InvSize k)) (OnRaise c k fuel) :=
  IsPlan.onRaise (P := fun s => setParentPlan c.fl s fuel n v)
    (S := fun e => e.isRefusal ∧ (e = .diverged → ¬k < fuel))
    (fun _ hs => ⟨.setParent c fuel n v hs.inv, setParentPlan_all hs c.fl fuel hn hv, fun e he =>
      ⟨setParentPlan_refuses _ _ _ _ _ e he,
        fun hd => setParentPlan_diverged hs c.fl n hv (hd ▸ he)⟩⟩)
    fun _ hS => ⟨fun e => by rw [e] at hS; exact hS.1, hS.2⟩

theorem delChildren_onRaise (k : Nat) (c : Cfg) (fuel n : Nat) :
    Triple (onF (InvSize k)) (delChildren c fuel n) (onF (InvSize k)) (OnRaise c k fuel) :=
  IsPlan.onRaise (S := fun _ => False) (P := fun s => delChildrenPlan s n)
    (fun s hs => ⟨.delChildren c fuel n hs.inv, delChildrenPlan_all hs n,
      .of_ok (delChildrenPlan_spec s n).res⟩) fun _ => False.elim

/-- the walk started at one world: the watched chain is the one `n` has there -/
theorem setChildrenNodes_onRaise (k : Nat) (c : Cfg) (fuel n : Nat) (xs : List Nat) (hn : n < k)
    (hxs : ∀ x ∈ xs, x < k) (hnd : xs.Nodup) :
    Triple (onF (InvSize k)) (setChildrenNodes c fuel n xs) (onF (InvSize k)) (OnRaise c k fuel) :=
  .pointwise fun w hw =>
    (setChildrenNodes_walk k c fuel n xs (fun j => w.f.up j n) w.cnt hn hxs hnd).weaken
    (fun _ e => by rw [e]; exact ⟨⟨hw, fun _ => rfl⟩, Nat.le_refl _⟩) (fun _ h => h.forest.toInvSize) fun _ _ h =>
      OnRaise.of_raised h.1.forest.toInvSize h.2 fun hS => by
        rcases hS with ⟨rfl, _⟩ | ⟨rfl, hS⟩
        · exact ⟨(fun h => nomatch h), (fun h => nomatch h)⟩
        · exact ⟨(fun h => nomatch h), fun _ B hB => (hS B hB B (Nat.le_add_left _ _)).1⟩

/-- what a whole call guarantees of its result `r` and final forest `f`, whether it returns or raises;
`k` bounds the number of objects during the call (one more than before for a constructor), and the fuel
rule is spelled out at `setChildrenNodes_window` -/
structure Safe (c : Cfg) (k fuel : Nat) (r : Except Err Unit) (f : Forest) : Prop where
  inv : Inv f
  ne_assertion : r ≠ .error .assertion
  ne_diverged : ∀ B, QuietFrom c B → k + B + 3 ≤ fuel → r ≠ .error .diverged

theorem OnRaise.exec {c : Cfg} {k k' fuel : Nat} {a : M}
    (ht : Triple (onF (InvSize k)) a (onF (InvSize k')) (OnRaise c k' fuel)) {s : Forest} (h : InvSize k s) :
    Safe c k' fuel (a ⟨s, [], 0⟩).1 (a ⟨s, [], 0⟩).2.f :=
  ht.elim (w := ⟨s, [], 0⟩) h (C := fun r => Safe c k' fuel r.1 r.2.f)
    (fun _ h => ⟨h.inv, (fun e => by cases e), fun _ _ _ e => by cases e⟩)
    (fun _ _ h => ⟨h.invSize.inv, (fun e => by cases e; exact h.ne_assertion rfl), fun B hB hf e => by
      cases e; exact Nat.not_lt.2 hf (h.short rfl B hB)⟩)

end Anytree
