import Anytree.Model.Iter
import Anytree.Spec.Iter
import Anytree.Lemmas.Tree
/-! Each loop of `Model/Iter.lean` against the textbook traversal of the admitted forest
(`Spec.admitT`/`Spec.admitL`), followed by `filter_`.  The default arguments `allF`, `noS` and the
iterators at them are in `Props/C05`. -/
namespace Anytree
open Tree Iter Spec
variable {α β : Type}

namespace Iter

/-- `maxlevel` remaining at loop level `level` (1-based) -/
def maxlevelAt (m : Option Int) (level : Int) : Option Int := m.map (· - (level - 1))

theorem maxlevelAt_one (m : Option Int) : maxlevelAt m 1 = m := by
  cases m <;> simp [maxlevelAt]

theorem maxlevelAt_succ (m : Option Int) (level : Int) : maxlevelAt m (level + 1) = lower (maxlevelAt m level) := by
  cases m with
  | none => rfl
  | some k => simp [maxlevelAt, lower]; omega

theorem abortAt_eq_cut (m : Option Int) (level : Int) : abortAt level m = cut (maxlevelAt m level) := by
  cases m with
  | none => rfl
  | some k => simp [abortAt, cut, maxlevelAt]; omega

/-- the pre-order mirror's test before descending: the children's level is cut -/
theorem abortAt_two (m : Option Int) : abortAt 2 m = cut (lower m) := by
  rw [abortAt_eq_cut, show (2 : Int) = 1 + 1 from rfl, maxlevelAt_succ, maxlevelAt_one]

/-- Python's `maxlevel - 1 if maxlevel else None` is `maxlevel - 1` wherever anything is admitted -/
theorem decMax_eq_lower (m : Option Int) (h : cut m = false) : decMax m = lower m := by
  cases m with
  | none => rfl
  | some k =>
    have : k ≠ 0 := by simp [cut] at h; omega
    simp [decMax, lower, this]

end Iter

namespace Spec

theorem admitL_eq (S : Tree α → Bool) (m : Option Int) (cs : List (Tree α)) :
    admitL S m cs = cs.flatMap fun c => (admitT S m c).toList := by
  induction cs with
  | nil => rfl
  | cons c cs ih => rw [admitL, ih, List.flatMap_cons]; cases admitT S m c <;> rfl

theorem admitL_append (S : Tree α → Bool) (m : Option Int) (xs ys : List (Tree α)) :
    admitL S m (xs ++ ys) = admitL S m xs ++ admitL S m ys := by
  simp only [admitL_eq, List.flatMap_append]

theorem admitT_of_ok (S : Tree α → Bool) (m : Option Int) (t : Tree α) (hc : cut m = false)
    (hs : S t = false) : admitT S m t = some (node t (admitL S (lower m) t.kids)) := by
  cases t with
  | node a cs => simp [admitT, hc, hs]

theorem admitT_of_stop (S : Tree α → Bool) (m : Option Int) (t : Tree α) (hs : S t = true) :
    admitT S m t = none := by
  cases t with
  | node a cs => simp [admitT, hs]

theorem admitT_of_cut (S : Tree α → Bool) (m : Option Int) (t : Tree α) (hc : cut m = true) :
    admitT S m t = none := by
  cases t with
  | node a cs => simp [admitT, hc]

theorem admitT_none_of_not_ok (S : Tree α → Bool) (m : Option Int) (t : Tree α)
    (hno : ¬ (cut m = false ∧ S t = false)) : admitT S m t = none := by
  cases hc : cut m with
  | true => exact admitT_of_cut S m _ hc
  | false =>
    cases hs : S t with
    | true => exact admitT_of_stop S m _ hs
    | false => exact absurd ⟨hc, hs⟩ hno

theorem admitL_cut (S : Tree α → Bool) (m : Option Int) (h : cut m = true) (cs : List (Tree α)) :
    admitL S m cs = [] := by
  rw [admitL_eq]
  exact List.flatMap_eq_nil_iff.mpr fun c _ => by rw [admitT_of_cut S m c h]; rfl

theorem optPre_eq (o : Option (Tree β)) : optPre o = o.toList.flatMap pre := by
  cases o <;> simp [optPre]

theorem optPost_eq (o : Option (Tree β)) : optPost o = o.toList.flatMap post := by
  cases o <;> simp [optPost]

theorem admitL_getChildren (S : Tree α → Bool) (m : Option Int) (cs : List (Tree α)) :
    admitL S m (getChildren S cs) = admitL S m cs := by
  induction cs with
  | nil => rfl
  | cons c cs ih =>
    simp only [getChildren] at ih
    cases hs : S c with
    | true => simp [admitL, admitT_of_stop S m c hs, getChildren, hs, ih]
    | false =>
      simp only [getChildren, List.filter_cons, hs, Bool.not_false, if_true]
      simp only [admitL, ih]

theorem admitL_eq_map (S : Tree α → Bool) (m : Option Int) (hc : cut m = false)
    (cs : List (Tree α)) :
    admitL S m cs = (getChildren S cs).map fun c => node c (admitL S (lower m) c.kids) := by
  induction cs with
  | nil => rfl
  | cons c cs ih =>
    rw [admitL, ih]
    simp only [getChildren, List.filter_cons]
    cases hs : S c with
    | true => rw [admitT_of_stop S m c hs]; rfl
    | false => rw [admitT_of_ok S m c hc hs]; rfl

theorem admitL_map_label (S : Tree α → Bool) (m : Option Int) (hc : cut m = false)
    (cs : List (Tree α)) : (admitL S m cs).map label = getChildren S cs := by
  rw [admitL_eq_map S m hc, List.map_map]
  exact (List.map_congr_left fun _ _ => rfl).trans (List.map_id _)

theorem admitL_flatMap_kids (S : Tree α → Bool) (m : Option Int) (hc : cut m = false)
    (cs : List (Tree α)) :
    (admitL S m cs).flatMap kids = admitL S (lower m) (grandchildren S (getChildren S cs)) := by
  rw [admitL_eq_map S m hc, List.flatMap_map, grandchildren]
  induction getChildren S cs with
  | nil => rfl
  | cons c cs ih => rw [List.flatMap_cons, List.flatMap_cons, admitL_append, admitL_getChildren, ih]; rfl

theorem admitT_unrestricted : ∀ t : Tree α, admitT (fun _ => false) none t = some (decorate t) := by
  refine induction_on fun a cs ih => ?_
  rw [admitT_of_ok _ _ _ rfl rfl, decorate, decorateL_eq, kids_node, admitL_eq]
  congr 2
  rw [List.map_eq_flatMap]
  exact flatMap_congr fun c hc => by rw [show lower none = none from rfl, ih c hc]; rfl

theorem getChildren_idem (S : Tree α → Bool) (cs : List (Tree α)) :
    getChildren S (getChildren S cs) = getChildren S cs := by
  simp [getChildren]

theorem getChildren_grandchildren (S : Tree α → Bool) (cs : List (Tree α)) :
    getChildren S (grandchildren S cs) = grandchildren S cs := by
  simp only [grandchildren, getChildren, List.filter_flatMap, List.filter_filter, Bool.and_self]

end Spec

namespace Iter

theorem preL_eq (F S : Tree α → Bool) (m : Option Int) (cs : List (Tree α)) :
    preL F S m cs = cs.flatMap (preT F S m) := by
  induction cs with
  | nil => rfl
  | cons c cs ih => rw [preL, ih, List.flatMap_cons]

theorem postL_eq (F S : Tree α → Bool) (m : Option Int) (level : Int) (cs : List (Tree α)) :
    postL F S m level cs = cs.flatMap fun c => if S c then [] else postT F S m level c := by
  induction cs with
  | nil => rfl
  | cons c cs ih => rw [postL, ih, List.flatMap_cons]

theorem preT_spec (F S : Tree α → Bool) : ∀ (t : Tree α) (m : Option Int), cut m = false →
    preT F S m t = (optPre (admitT S m t)).filter F := by
  refine induction_on fun a cs ih m hm => ?_
  cases hs : S (node a cs) with
  | true => rw [admitT_of_stop S m _ hs, preT, if_pos hs]; rfl
  | false =>
    rw [admitT_of_ok S m _ hm hs, optPre, pre_eq_cons, label_node, kids_node, preT, if_neg (by simp [hs]),
      abortAt_two, decMax_eq_lower m hm, List.filter_cons]
    have key : (if !cut (lower m) then preL F S (lower m) cs else []) =
        ((admitL S (lower m) cs).flatMap pre).filter F := by
      cases hc : cut (lower m) with
      | true => simp [admitL_cut S _ hc]
      | false =>
        rw [preL_eq, admitL_eq, List.flatMap_assoc, List.filter_flatMap]
        simp only [Bool.not_false, if_true, ← optPre_eq]
        exact flatMap_congr fun c hcm => ih c hcm _ hc
    rw [key]; cases F (node a cs) <;> rfl

theorem start_cases (S : Tree α → Bool) (m : Option Int) (t : Tree α) :
    (start S m t = [] ∧ (abortAt 1 m || S t) = true ∧ admitT S m t = none) ∨
    (start S m t = [t] ∧ cut m = false ∧ S t = false) := by
  have h1 : abortAt 1 m = cut m := by rw [abortAt_eq_cut, maxlevelAt_one]
  simp only [start, h1, getChildren]
  cases hc : cut m with
  | true => exact Or.inl ⟨by simp, by simp, admitT_of_cut S m t hc⟩
  | false =>
    cases hs : S t with
    | true => exact Or.inl ⟨by simp [hs], by simp, admitT_of_stop S m t hs⟩
    | false => exact Or.inr ⟨by simp [hs], rfl, rfl⟩

theorem postT_spec (F S : Tree α → Bool) (m : Option Int) : ∀ (t : Tree α) (level : Int),
    cut (maxlevelAt m level) = false → S t = false →
      postT F S m level t = (optPost (admitT S (maxlevelAt m level) t)).filter F := by
  refine induction_on fun a cs ih level hm hs => ?_
  rw [admitT_of_ok S _ _ hm hs, optPost, post_eq_append, label_node, kids_node, postT, List.filter_append,
    abortAt_eq_cut, maxlevelAt_succ]
  congr 1
  · cases hc : cut (lower (maxlevelAt m level)) with
    | true => simp [admitL_cut S _ hc]
    | false =>
      rw [if_neg (by simp), postL_eq, admitL_eq, List.flatMap_assoc, List.filter_flatMap, ← maxlevelAt_succ]
      refine flatMap_congr fun c hcm => ?_
      cases hsc : S c with
      | true => rw [admitT_of_stop S _ c hsc]; rfl
      | false =>
        rw [if_neg (by simp), ih c hcm _ (by rw [maxlevelAt_succ]; exact hc) hsc, optPost_eq]
  · cases hF : F (node a cs) <;> simp [hF]

/-- `hcs` is the loop's invariant: the current level holds no node that `stop` rejects (`getChildren`
has filtered it), so it is its own admitted forest at the top -/
theorem groupLoop_spec (F S : Tree α → Bool) (m : Option Int) (level : Int) (cs : List (Tree α))
    (hm : cut (maxlevelAt m level) = false) (hcs : getChildren S cs = cs) :
    groupLoop F S m level cs =
      (levelsL (admitL S (maxlevelAt m level) cs)).map (List.filter F) := by
  fun_induction groupLoop F S m level cs with
  | case1 level => simp [admitL, levelsL_nil]
  | case2 level c cs ih =>
    have hlab := admitL_map_label S (maxlevelAt m level) hm (c :: cs)
    have hkids := admitL_flatMap_kids S (maxlevelAt m level) hm (c :: cs)
    rw [hcs] at hlab hkids
    -- the admitted forest is not empty: its labels are `c :: cs`
    generalize admitL S (maxlevelAt m level) (c :: cs) = A at hlab hkids ⊢
    cases A with
    | nil => cases hlab
    | cons a as =>
      rw [levelsL_cons, List.map_cons, hlab, hkids]
      refine congrArg _ ?_
      rw [abortAt_eq_cut, maxlevelAt_succ]
      cases hc : cut (lower (maxlevelAt m level)) with
      | true => simp [admitL_cut S _ hc, levelsL_nil]
      | false =>
        simp only [Bool.false_eq_true, if_false]
        rw [ih (by rw [maxlevelAt_succ]; exact hc) (getChildren_grandchildren S _), maxlevelAt_succ]

theorem levelLoop_eq_group (F S : Tree α → Bool) (m : Option Int) (level : Int)
    (cs : List (Tree α)) :
    levelLoop F S m level cs = (groupLoop F S m level cs).flatten := by
  fun_induction levelLoop F S m level cs with
  | case1 level => simp [groupLoop]
  | case2 level c cs ih =>
    simp only [dite_eq_ite] at ih
    rw [groupLoop, List.flatten_cons, ih]
    cases abortAt (level + 1) m <;> simp [groupLoop]

/-- two levels further the parity is the same -/
theorem zigzagSpec_cons_cons (a b : List β) (rest : List (List β)) :
    zigzagSpec (a :: b :: rest) = a :: b.reverse :: zigzagSpec rest := by
  simp only [zigzagSpec, List.mapIdx_cons]
  have h : ∀ i : Nat, (i + 1 + 1) % 2 = i % 2 := fun i => Nat.add_mod_right i 2
  simp only [h]
  rfl

theorem zzPairs_eq (ls : List (List β)) : zzPairs ls = zigzagSpec ls := by
  induction ls using zzPairs.induct with
  | case1 => rfl
  | case2 a => rfl
  | case3 a b rest ih => rw [zzPairs, zigzagSpec_cons_cons, ih]

end Iter
end Anytree
