import Anytree.Lemmas.Copy
import Anytree.Lemmas.Shape
/-!
The deep copy as a function.  anytree has no copying code of its own: `copy.deepcopy(n)` and
`pickle.loads(pickle.dumps(n))` are CPython's, and rebuild exactly the objects reachable from `n` with
fresh identities.  `copyForest` / `copyTargets` are that, said of the model: given the list `R` of reached
objects (duplicate free), the copied object number `i` is the copy of `R[i]`, and every reference `x ↦ y`
between reached objects becomes the reference `pos R x ↦ pos R y`.  The statements of C19b are about these
two functions; that CPython's copier does what they say is not proved but checked on the Python side of
the correspondence run, which compares every copy with its original.

Proved of `copyForest` / `copyTargets`: the copy is a consistent forest, `i ↦ R[i]` is an isomorphism
onto the reached part of the original, and the unfolded trees agree.
-/
namespace Anytree
open Forest

namespace Attr

/-- the fresh identity of the copy of `x`: its position in the list of reached objects -/
def pos (R : List Nat) (x : Nat) : Option Nat :=
  if x ∈ R then some (R.idxOf x) else none

/-- the copied link maps over the fresh identities `0 … R.length-1` -/
def copyForest (s : Forest) (R : List Nat) : Forest :=
  { n := R.length,
    parent := fun i => (R[i]?).bind (fun x => (s.parent x).bind (pos R)),
    children := fun i =>
      match R[i]? with
      | none => []
      | some x => (s.children x).filterMap (pos R) }

def copyTargets (tg : Nat → Option Nat) (R : List Nat) : Nat → Option Nat :=
  fun i => (R[i]?).bind (fun x => (tg x).bind (pos R))

theorem pos_eq_none_iff {R : List Nat} {x : Nat} : pos R x = none ↔ x ∉ R := by
  unfold pos
  by_cases h : x ∈ R <;> simp [h]

theorem getElem?_of_pos {R : List Nat} {x i : Nat} (h : pos R x = some i) : R[i]? = some x := by
  unfold pos at h
  by_cases hx : x ∈ R
  · simp only [hx, if_true, Option.some.injEq] at h
    subst h
    have hlt : R.idxOf x < R.length := List.idxOf_lt_length_of_mem hx
    rw [List.getElem?_eq_getElem hlt, List.getElem_idxOf hlt]
  · simp [hx] at h

theorem lt_of_pos {R : List Nat} {x i : Nat} (h : pos R x = some i) : i < R.length := by
  have := getElem?_of_pos h
  exact (List.getElem?_eq_some_iff.mp this).1

theorem mem_of_pos {R : List Nat} {x i : Nat} (h : pos R x = some i) : x ∈ R :=
  List.mem_of_getElem? (getElem?_of_pos h)

theorem pos_of_mem {R : List Nat} {x : Nat} (h : x ∈ R) : ∃ i, pos R x = some i ∧ R[i]? = some x := by
  have : pos R x = some (R.idxOf x) := by simp [pos, h]
  exact ⟨_, this, getElem?_of_pos this⟩

theorem pos_of_getElem? {R : List Nat} (hnd : R.Nodup) {x i : Nat} (h : R[i]? = some x) :
    pos R x = some i := by
  obtain ⟨hi, rfl⟩ := List.getElem?_eq_some_iff.mp h
  rw [pos, if_pos (List.getElem_mem hi), hnd.idxOf_getElem i hi]

theorem pos_eq_some_iff {R : List Nat} (hnd : R.Nodup) {x i : Nat} :
    pos R x = some i ↔ R[i]? = some x :=
  ⟨getElem?_of_pos, pos_of_getElem? hnd⟩

/-- `i ↦ R[i]` and `pos R` are mutually inverse between `0 … R.length-1` and the members of `R` -/
theorem pos_getElem {R : List Nat} (hnd : R.Nodup) {i : Nat} (hi : i < R.length) :
    pos R R[i] = some i :=
  pos_of_getElem? hnd (List.getElem?_eq_getElem hi)

theorem filterMap_pos_nodup {R : List Nat} {l : List Nat} (hl : l.Nodup) :
    (l.filterMap (pos R)).Nodup :=
  List.Pairwise.filterMap (S := (· ≠ ·)) (pos R)
    (fun _ _ hne _ hb _ hb' e => hne (Option.some.inj
      ((getElem?_of_pos hb).symm.trans (getElem?_of_pos (e ▸ hb'))))) hl

/-- stated for any read-back `g`: it is used with `R[·]!`, with `R[·]?` and with the unfolded trees -/
theorem map_filterMap_pos {β : Type} {R : List Nat} (g h : Nat → β) :
    ∀ (l : List Nat), (∀ c ∈ l, c ∈ R) → (∀ c ∈ l, ∀ j, pos R c = some j → g j = h c) →
      (l.filterMap (pos R)).map g = l.map h := by
  intro l
  induction l with
  | nil => intro _ _; rfl
  | cons a l ih =>
    intro hR hg
    obtain ⟨i, hi, _⟩ := pos_of_mem (hR a (List.mem_cons_self ..))
    rw [List.filterMap_cons_some hi, List.map_cons, List.map_cons,
      hg a (List.mem_cons_self ..) i hi,
      ih (fun c hc => hR c (List.mem_cons_of_mem _ hc))
        (fun c hc => hg c (List.mem_cons_of_mem _ hc))]

section
variable {s : Forest} {tg : Nat → Option Nat} {R : List Nat} {f : Nat → Option Nat}

/-- parent links and symlink targets of the copy are the same thing: an optional reference `f x`,
read at the copy `i` of `x` and redirected to the copy of what it points to -/
def renameRef (f : Nat → Option Nat) (R : List Nat) (i : Nat) : Option Nat :=
  (R[i]?).bind fun x => (f x).bind (pos R)

theorem copyForest_parent : (copyForest s R).parent = renameRef s.parent R := rfl
theorem copyTargets_eq : copyTargets tg R = renameRef tg R := rfl

theorem renameRef_some {i j : Nat} (h : renameRef f R i = some j) :
    ∃ x y, R[i]? = some x ∧ f x = some y ∧ pos R y = some j := by
  obtain ⟨x, hx, h⟩ := Option.bind_eq_some_iff.mp h
  obtain ⟨y, hy, h⟩ := Option.bind_eq_some_iff.mp h
  exact ⟨x, y, hx, hy, h⟩

theorem renameRef_eq_some_iff (hnd : R.Nodup) {i x j : Nat} (hi : R[i]? = some x) :
    renameRef f R i = some j ↔ ∃ y, f x = some y ∧ R[j]? = some y := by
  simp only [renameRef, hi, Option.bind_some, Option.bind_eq_some_iff, pos_eq_some_iff hnd]

theorem renameRef_eq_none_iff (hcl : ∀ x y, x ∈ R → f x = some y → y ∈ R) {i x : Nat}
    (hi : R[i]? = some x) : renameRef f R i = none ↔ f x = none := by
  simp only [renameRef, hi, Option.bind_some]
  cases hy : f x with
  | none => simp only [Option.bind_none]
  | some y =>
    obtain ⟨j, hj, _⟩ := pos_of_mem (hcl x y (List.mem_of_getElem? hi) hy)
    simp only [Option.bind_some, hj, reduceCtorEq]

theorem renameRef_lt {i j : Nat} (h : renameRef f R i = some j) : i < R.length ∧ j < R.length := by
  obtain ⟨x, y, hx, _, hj⟩ := renameRef_some h
  exact ⟨(List.getElem?_eq_some_iff.mp hx).1, lt_of_pos hj⟩

theorem renameRef_out {i : Nat} (hi : R.length ≤ i) : renameRef f R i = none := by
  simp only [renameRef, List.getElem?_eq_none hi, Option.bind_none]

@[simp] theorem copyForest_n : (copyForest s R).n = R.length := rfl

theorem copy_parent {i x : Nat} (hi : R[i]? = some x) :
    (copyForest s R).parent i = (s.parent x).bind (pos R) := by
  simp only [copyForest_parent, renameRef, hi, Option.bind_some]

theorem copy_children {i x : Nat} (hi : R[i]? = some x) :
    (copyForest s R).children i = (s.children x).filterMap (pos R) := by
  simp only [copyForest, hi]

theorem copy_children_out {i : Nat} (hi : R.length ≤ i) : (copyForest s R).children i = [] := by
  simp only [copyForest, List.getElem?_eq_none hi]

theorem copy_target_out {i : Nat} (hi : R.length ≤ i) : copyTargets tg R i = none :=
  renameRef_out hi

theorem copy_target {i x : Nat} (hi : R[i]? = some x) :
    copyTargets tg R i = (tg x).bind (pos R) := by
  simp only [copyTargets_eq, renameRef, hi, Option.bind_some]

theorem copy_parent_out {i : Nat} (hi : R.length ≤ i) : (copyForest s R).parent i = none :=
  renameRef_out hi

theorem copy_parent_some {i j : Nat} (h : (copyForest s R).parent i = some j) :
    ∃ x p, R[i]? = some x ∧ s.parent x = some p ∧ pos R p = some j := renameRef_some h

theorem copy_child_mem {i j : Nat} (h : j ∈ (copyForest s R).children i) :
    ∃ x c, R[i]? = some x ∧ c ∈ s.children x ∧ pos R c = some j := by
  cases hi : R[i]? with
  | none => rw [copy_children_out (List.getElem?_eq_none_iff.mp hi)] at h; cases h
  | some x =>
    rw [copy_children hi] at h
    obtain ⟨c, hc, hcj⟩ := List.mem_filterMap.mp h
    exact ⟨x, c, rfl, hc, hcj⟩

theorem copy_parent_eq_none_iff (hclp : ∀ x p, x ∈ R → s.parent x = some p → p ∈ R)
    {i x : Nat} (hi : R[i]? = some x) :
    (copyForest s R).parent i = none ↔ s.parent x = none := renameRef_eq_none_iff hclp hi

theorem copy_children_map (hclc : ∀ x c, x ∈ R → c ∈ s.children x → c ∈ R)
    {i x : Nat} (hi : R[i]? = some x) :
    ((copyForest s R).children i).map (fun j => R[j]!) = s.children x := by
  rw [copy_children hi, map_filterMap_pos (R := R) (fun j => R[j]!) id (s.children x)
    (fun c hc => hclc x c (List.mem_of_getElem? hi) hc)
    (fun c _ j hj => List.getElem!_of_getElem? (getElem?_of_pos hj)), List.map_id]

theorem copy_children_map? (hclc : ∀ x c, x ∈ R → c ∈ s.children x → c ∈ R)
    {i x : Nat} (hi : R[i]? = some x) :
    ((copyForest s R).children i).map (fun j => R[j]?) = (s.children x).map some := by
  rw [copy_children hi]
  exact map_filterMap_pos (R := R) (fun j => R[j]?) some (s.children x)
    (fun c hc => hclc x c (List.mem_of_getElem? hi) hc)
    (fun c _ j hj => getElem?_of_pos hj)

theorem copy_children_length (hclc : ∀ x c, x ∈ R → c ∈ s.children x → c ∈ R)
    {i x : Nat} (hi : R[i]? = some x) :
    ((copyForest s R).children i).length = (s.children x).length := by
  have := congrArg List.length (copy_children_map? hclc hi)
  rwa [List.length_map, List.length_map] at this

/-- a chain of the copy projects to a chain of the original -/
theorem copy_up_some : ∀ (k : Nat) {i j : Nat}, (copyForest s R).up k i = some j → i < R.length →
    ∃ x y, R[i]? = some x ∧ R[j]? = some y ∧ s.up k x = some y := by
  intro k i
  fun_induction up (copyForest s R) k i with
  | case1 i =>
    intro j h hi; cases h
    exact ⟨R[i], R[i], List.getElem?_eq_getElem hi, List.getElem?_eq_getElem hi, rfl⟩
  | case2 => intro j h; cases h
  | case3 k i q hp ih =>
    intro j h hi
    obtain ⟨x, p, hx, hxp, hq⟩ := copy_parent_some hp
    obtain ⟨x', y, hx', hy, hup⟩ := ih h (lt_of_pos hq)
    rw [getElem?_of_pos hq] at hx'; cases hx'
    exact ⟨x, y, hx, hy, (up_succ_of_parent hxp k).trans hup⟩

theorem copy_up_none (k : Nat) {i x : Nat} (hi : R[i]? = some x) (h : s.up k x = none) :
    (copyForest s R).up k i = none := by
  cases hc : (copyForest s R).up k i with
  | none => rfl
  | some j =>
    obtain ⟨x', y, hx', _, hup⟩ := copy_up_some k hc (List.getElem?_eq_some_iff.mp hi).1
    rw [hi] at hx'; cases hx'; rw [h] at hup; cases hup

theorem copy_up (hnd : R.Nodup) (hclp : ∀ x p, x ∈ R → s.parent x = some p → p ∈ R) (k : Nat)
    {i x : Nat} (hi : R[i]? = some x) :
    (copyForest s R).up k i = (s.up k x).bind (pos R) := by
  fun_induction up s k x generalizing i with
  | case1 x => exact (pos_of_getElem? hnd hi).symm
  | case2 k x hp => rw [up_succ_root ((copy_parent_eq_none_iff hclp hi).mpr hp)]; rfl
  | case3 k x p hp ih =>
    obtain ⟨j, hj, hjp⟩ := pos_of_mem (hclp x p (List.mem_of_getElem? hi) hp)
    rw [up_succ_of_parent (by rw [copy_parent hi, hp]; exact hj)]
    exact ih hjp

end

section
variable {s : Forest} {tg : Nat → Option Nat} {R : List Nat}

/-- C01 for the copy: renaming the links among a duplicate-free list of objects of a consistent
forest gives a consistent forest.  (Closure of `R` is not needed for consistency: a reference leaving
`R` is dropped on both sides.) -/
theorem copyForest_inv (h : Inv s) (hnd : R.Nodup) : Inv (copyForest s R) where
  bidir := by
    intro c p
    constructor
    · intro hcp
      obtain ⟨x, y, hx, hxy, hy⟩ := copy_parent_some hcp
      rw [copy_children (getElem?_of_pos hy)]
      exact List.mem_filterMap.mpr ⟨x, (h.bidir x y).mp hxy, pos_of_getElem? hnd hx⟩
    · intro hc
      obtain ⟨y, x, hy, hxy, hx⟩ := copy_child_mem hc
      rw [copy_parent (getElem?_of_pos hx), (h.bidir x y).mpr hxy]
      exact pos_of_getElem? hnd hy
  nodup := by
    intro p
    cases hp : R[p]? with
    | none => rw [copy_children_out (List.getElem?_eq_none_iff.mp hp)]; exact List.nodup_nil
    | some y => rw [copy_children hp]; exact filterMap_pos_nodup (h.nodup y)
  term := by
    intro i
    cases hi : R[i]? with
    | none => exact ⟨1, up_succ_root (copy_parent_out (List.getElem?_eq_none_iff.mp hi)) 0⟩
    | some x =>
      obtain ⟨k, hk⟩ := h.term x
      exact ⟨k, copy_up_none k hi hk⟩
  supp := by
    intro i hi
    exact ⟨copy_parent_out hi, copy_children_out hi⟩

theorem copy_child_lt {i j : Nat} (h : j ∈ (copyForest s R).children i) :
    i < R.length ∧ j < R.length := by
  obtain ⟨x, c, hx, _, hj⟩ := copy_child_mem h
  exact ⟨(List.getElem?_eq_some_iff.mp hx).1, lt_of_pos hj⟩

end

/-- the unfolded trees agree: the tree below a copy, with every label read back through `R`, is the tree
below its original -/
theorem copy_toTree {s : Forest} {R : List Nat}
    (hclc : ∀ x c, x ∈ R → c ∈ s.children x → c ∈ R) :
    ∀ (fuel : Nat) {i x : Nat}, R[i]? = some x →
      ((copyForest s R).toTree fuel i).map (fun j => R[j]!) = s.toTree fuel x := by
  intro fuel
  induction fuel with
  | zero =>
    intro i x hi
    simp [toTree, Tree.map, Tree.mapL, getElem!_def, hi]
  | succ fuel ih =>
    intro i x hi
    simp only [toTree, Tree.map, Tree.mapL_eq, List.map_map]
    have hroot : R[i]! = x := by simp only [getElem!_def, hi]
    rw [hroot, copy_children hi]
    refine congrArg _ ?_
    exact map_filterMap_pos (R := R) _ _ (s.children x)
      (fun c hc => hclc x c (List.mem_of_getElem? hi) hc)
      (fun c _ j hj => ih (getElem?_of_pos hj))

/-- the same without `Tree.map`: the pre-order listing of the copy's tree, read back, is the pre-order
listing of the original's tree -/
theorem copy_toTree_pre {s : Forest} {R : List Nat}
    (hclc : ∀ x c, x ∈ R → c ∈ s.children x → c ∈ R) (fuel : Nat) {i x : Nat}
    (hi : R[i]? = some x) :
    ((copyForest s R).toTree fuel i).pre.map (fun j => R[j]!) = (s.toTree fuel x).pre := by
  rw [← Tree.pre_map, copy_toTree hclc fuel hi]

theorem reach_getElem?_zero (s : Forest) (tg : Nat → Option Nat) (n : Nat) :
    (reach s tg n)[0]? = some n := List.head?_eq_getElem? ▸ reach_head s tg n

theorem pos_reach_entry (s : Forest) (tg : Nat → Option Nat) (n : Nat) :
    pos (reach s tg n) n = some 0 :=
  pos_of_getElem? (reachF_nodup _ _ _ List.nodup_nil) (reach_getElem?_zero s tg n)

end Attr
end Anytree
