import Anytree.Spec.Attr
import Anytree.Lemmas.Chain
/-!
The breadth-first traversal `reachF` behind `reach`, from two sides.  What holds of the start and is passed
on along references (`nb`) holds of everything reached (`reachF_inv`); and the fuel that `reach` supplies
lets the traversal end on an empty frontier, so that the result is closed under references
(`reachF_closed`).  Props/C19 puts the two together: reached = connected.

Where the facts about `reach` are: `reach_inv`, `reach_closed`, `reach_head` here; no duplicates, sound,
complete in Props/C19; the entry node at position `0` at the end of Lemmas/CopyIso; `reach_lt` in Props/C19b.
-/
namespace Anytree

namespace Attr

variable {s : Forest} {tg : Nat → Option Nat}

/-- the references held by object `x`: the `nb` that `reachF` binds locally (`reachF_cons`) -/
def nb (s : Forest) (tg : Nat → Option Nat) (x : Nat) : List Nat :=
  (s.parent x).toList ++ s.children x ++ (tg x).toList

theorem mem_nb {x y : Nat} :
    y ∈ nb s tg x ↔ s.parent x = some y ∨ y ∈ s.children x ∨ tg x = some y := by
  simp only [nb, List.mem_append, Option.mem_toList, or_assoc]

theorem reachF_cons (fuel x : Nat) (fr seen : List Nat) :
    reachF s tg (fuel + 1) (x :: fr) seen =
      if seen.contains x then reachF s tg fuel fr seen
      else reachF s tg fuel (fr ++ nb s tg x) (seen ++ [x]) := rfl

theorem reachF_zero (fr seen : List Nat) : reachF s tg 0 fr seen = seen := rfl

theorem reachF_nil (fuel : Nat) (seen : List Nat) : reachF s tg fuel [] seen = seen := by
  cases fuel <;> rfl

theorem reachF_inv (P : Nat → Prop) (hnb : ∀ x, P x → ∀ y ∈ nb s tg x, P y) :
    ∀ fuel frontier seen, (∀ x ∈ frontier, P x) → (∀ x ∈ seen, P x) →
      ∀ x ∈ reachF s tg fuel frontier seen, P x := by
  intro fuel frontier seen
  fun_induction reachF s tg fuel frontier seen with
  | case1 => exact fun _ hs => hs
  | case2 => exact fun _ hs => hs
  | case3 fuel x fr seen _ ih => exact fun hf => ih fun y hy => hf y (List.mem_cons_of_mem _ hy)
  | case4 fuel x fr seen _ N ih =>
    intro hf hs
    have hx : P x := hf x (List.mem_cons_self ..)
    exact ih
      (fun y hy => (List.mem_append.mp hy).elim (fun hy => hf y (List.mem_cons_of_mem _ hy)) (hnb x hx y))
      (fun y hy => (List.mem_append.mp hy).elim (hs y) fun hy => List.mem_singleton.mp hy ▸ hx)

theorem reachF_nodup :
    ∀ fuel frontier seen, seen.Nodup → (reachF s tg fuel frontier seen).Nodup := by
  intro fuel frontier seen
  fun_induction reachF s tg fuel frontier seen with
  | case1 => exact id
  | case2 => exact id
  | case3 _ _ _ _ _ ih => exact ih
  | case4 _ _ _ _ hx _ ih => exact fun hs => ih (nodup_snoc hs (mt List.contains_iff_mem.mpr hx))

theorem reachF_prefix :
    ∀ fuel frontier seen, ∃ t, reachF s tg fuel frontier seen = seen ++ t := by
  intro fuel frontier seen
  fun_induction reachF s tg fuel frontier seen with
  | case1 => exact ⟨[], (List.append_nil _).symm⟩
  | case2 => exact ⟨[], (List.append_nil _).symm⟩
  | case3 _ _ _ _ _ ih => exact ih
  | case4 _ x _ _ _ _ ih =>
    exact let ⟨t, ht⟩ := ih; ⟨x :: t, ht.trans (List.append_assoc ..)⟩

theorem nb_lt (h : Inv s) (htg : ∀ x, x < s.n → ∀ t, tg x = some t → t < s.n) {x : Nat}
    (hx : x < s.n) : ∀ y ∈ nb s tg x, y < s.n := by
  intro y hy
  rcases mem_nb.1 hy with hy | hy | hy
  · exact (h.lt_of_parent hy).2
  · exact h.child_lt hy
  · exact htg x hx y hy

theorem nb_length (h : Inv s) (x : Nat) : (nb s tg x).length ≤ s.n + 2 := by
  have h1 := Option.length_toList_le (o := s.parent x)
  have h2 := Option.length_toList_le (o := tg x)
  have h3 := length_le_of_nodup_lt (h.nodup x) fun _ => h.child_lt
  simp only [nb, List.length_append]
  omega

theorem closed_nil {R : List Nat} (hJ : ∀ z ∈ R, nb s tg z ⊆ R ++ []) :
    R ++ [] ⊆ R ∧ ∀ z ∈ R, nb s tg z ⊆ R := by
  rw [List.append_nil] at *
  exact ⟨fun _ hy => hy, hJ⟩

/-- with fuel for every frontier entry that can still arise (each of the `s.n - seen.length` unseen
objects adds at most `s.n + 2` entries), the traversal stops on an empty frontier: the result
contains `seen ++ frontier` and is closed under references -/
theorem reachF_closed (h : Inv s) (htg : ∀ x, x < s.n → ∀ t, tg x = some t → t < s.n) :
    ∀ fuel frontier seen, seen.Nodup → (∀ x ∈ seen ++ frontier, x < s.n) →
      (∀ z ∈ seen, nb s tg z ⊆ seen ++ frontier) →
      frontier.length + s.n * (s.n + 2) ≤ fuel + seen.length * (s.n + 2) →
      seen ++ frontier ⊆ reachF s tg fuel frontier seen ∧
      ∀ z ∈ reachF s tg fuel frontier seen, nb s tg z ⊆ reachF s tg fuel frontier seen := by
  intro fuel frontier seen
  fun_induction reachF s tg fuel frontier seen with
  | case1 fr seen =>
    intro hnd hlt hJ hfuel
    have := Nat.mul_le_mul_right (s.n + 2)
      (length_le_of_nodup_lt hnd fun y hy => hlt y (List.mem_append_left _ hy))
    obtain rfl : fr = [] := List.eq_nil_of_length_eq_zero (by omega)
    exact closed_nil hJ
  | case2 => exact fun _ _ hJ _ => closed_nil hJ
  | case3 fuel x fr seen hx ih =>
    intro hnd hlt hJ hfuel
    have h1 : seen ++ x :: fr ⊆ seen ++ fr :=
      List.append_subset.mpr ⟨List.subset_append_left .., List.cons_subset.mpr
        ⟨List.mem_append_left _ (List.contains_iff_mem.mp hx), List.subset_append_right ..⟩⟩
    have h2 : seen ++ fr ⊆ seen ++ x :: fr :=
      ((List.sublist_cons_self x fr).append_left seen).subset
    obtain ⟨r1, r2⟩ := ih hnd (fun y hy => hlt y (h2 hy)) (fun z hz => (hJ z hz).trans h1)
      (by rw [List.length_cons] at hfuel; omega)
    exact ⟨h1.trans r1, r2⟩
  | case4 fuel x fr seen hx N ih =>
    intro hnd hlt hJ hfuel
    rw [List.append_cons] at hlt hJ ⊢
    rw [← List.append_assoc] at ih
    have hxn : x < s.n :=
      hlt x (List.mem_append_left _ (List.mem_append_right _ (List.mem_singleton_self x)))
    have hnb : N.length ≤ s.n + 2 := nb_length (tg := tg) h x
    obtain ⟨r1, r2⟩ := ih (nodup_snoc hnd (mt List.contains_iff_mem.mpr hx))
      (fun y hy => (List.mem_append.mp hy).elim (hlt y) (nb_lt h htg hxn y))
      (fun z hz => (List.mem_append.mp hz).elim
        (fun hz => (hJ z hz).trans (List.subset_append_left ..))
        (fun hz => by cases List.mem_singleton.mp hz; exact List.subset_append_right ..))
      (by rw [List.length_cons] at hfuel
          simp only [List.length_append, List.length_singleton, Nat.add_one_mul]; omega)
    exact ⟨(List.subset_append_left ..).trans r1, r2⟩

theorem reach_inv (P : Nat → Prop) (hnb : ∀ x, P x → ∀ y ∈ nb s tg x, P y) {n : Nat} (hn : P n) :
    ∀ x ∈ reach s tg n, P x :=
  reachF_inv P hnb _ [n] [] (fun _ hy => List.mem_singleton.mp hy ▸ hn) (fun _ hy => nomatch hy)

/-- `R` holds, with each of its objects, what the object refers to -/
structure Closed (s : Forest) (tg : Nat → Option Nat) (R : List Nat) : Prop where
  parent : ∀ x p, x ∈ R → s.parent x = some p → p ∈ R
  children : ∀ x c, x ∈ R → c ∈ s.children x → c ∈ R
  target : ∀ x t, x ∈ R → tg x = some t → t ∈ R

theorem reach_closed (h : Inv s) (htg : ∀ x, x < s.n → ∀ t, tg x = some t → t < s.n) {n : Nat}
    (hn : n < s.n) : n ∈ reach s tg n ∧ Closed s tg (reach s tg n) := by
  obtain ⟨r1, r2⟩ := reachF_closed h htg ((s.n + 1) * (s.n + 3)) [n] [] List.nodup_nil
    (fun x hx => List.mem_singleton.mp hx ▸ hn) (fun z hz => nomatch hz)
    (by have := Nat.mul_le_mul_left s.n (by omega : s.n + 2 ≤ s.n + 3)
        rw [Nat.add_one_mul, List.length_singleton, List.length_nil, Nat.zero_mul]; omega)
  exact ⟨r1 (List.mem_singleton_self n), fun x _ hx hp => r2 x hx (mem_nb.2 (.inl hp)),
    fun x _ hx hc => r2 x hx (mem_nb.2 (.inr (.inl hc))),
    fun x _ hx ht => r2 x hx (mem_nb.2 (.inr (.inr ht)))⟩

/-- no hypothesis on `s` or `n`: the fuel of `reach` is positive -/
theorem reach_head (s : Forest) (tg : Nat → Option Nat) (n : Nat) :
    (reach s tg n).head? = some n := by
  -- the fuel is `f + 1` with `f := s.n * (s.n + 3) + (s.n + 2)`; unfold the first step by `rfl`
  obtain ⟨t, ht⟩ :=
    reachF_prefix (s := s) (tg := tg) (s.n * (s.n + 3) + (s.n + 2)) (nb s tg n) [n]
  have : reach s tg n = [n] ++ t := by rw [← ht, reach, Nat.add_one_mul]; rfl
  rw [this]; rfl

end Attr
end Anytree
