import Anytree.Spec.Render
import Anytree.Lemmas.Nav
/-! C09: the rows of the mirror are the specification rows of the rendered view.  `specRows` places a view
under a flag context and unfolds node by node (`specRows_node`), as `nextF` does; the prefixes of an
equal-width style have the width of their depth; the depth list of the rows determines the shape.

No lemma ties `renderView` to the admitted tree of `Spec/Iter`.  With the identity `childiter` and fuel above the
height, `renderView id m fuel level n` is `Tree.map label` of `admitT (fun _ => false) m' n` at
`m' := m.map (max (· - level) 1)`: render levels count from 0 and the start node is always shown, so
`descend m level = !cut (lower m')`. -/
namespace Anytree
open Tree Render Spec
variable {α : Type}

namespace Spec

/-- the two prefixes of a row (`pre` before its first line, `fill` before the others) from the flags "the
ancestor-or-self at this depth has a following sibling" alone: `prefixesAt` is `pf` of `flagsAt`, the mirror's
`item` is `pf` of `continues` -/
def pf (style : Style) (flags : List Bool) : String × String :=
  match flags.getLast? with
  | none => ("", "")
  | some last =>
    (String.join (segs style flags.dropLast) ++ (if last then style.cont else style.end_),
     String.join (segs style flags))

theorem prefixesAt_eq_pf (style : Style) (v : Tree α) (a : Addr) :
    prefixesAt style v a = pf style (flagsAt v a) := rfl

theorem pf_nil (style : Style) : pf style [] = ("", "") := rfl

end Spec

namespace Render

/-- what the specification compares of a row: the two prefixes and the payload, not the node object -/
def proj (r : Row α) : String × String × α := (r.pre, r.fill, r.node.label)

theorem proj_item (style : Style) (flags : List Bool) (n : Tree α) :
    proj (item style flags n) = ((pf style flags).1, (pf style flags).2, n.label) := by
  unfold item pf proj segs
  cases flags.getLast? with
  | none => rfl
  | some last => simp only [List.map_dropLast]

theorem isLast_cons {β : Type} (y : β) (ys : List β) :
    isLast (y :: ys) = (y, ys.isEmpty) :: isLast ys := by
  cases ys with
  | nil => rfl
  | cons z zs => rfl

end Render

namespace Spec

theorem flagsAt_nil (v : Tree α) : flagsAt v [] = [] := rfl

theorem length_flagsAt (v : Tree α) (a : Addr) : (flagsAt v a).length = a.length := by
  simp only [flagsAt, List.getD_eq_getElem?_getD, List.length_map, List.length_range]

theorem flagsAt_cons (x : α) (kids : List (Tree α)) (i : Nat) (c : Tree α)
    (h : kids[i]? = some c) (b : Addr) :
    flagsAt (node x kids) (i :: b) = decide (i + 1 < kids.length) :: flagsAt c b := by
  simp only [flagsAt, List.length_cons, List.range_succ_eq_map, List.map_cons, List.map_map]
  refine congrArg _ ?_
  apply List.map_congr_left
  intro j _
  simp only [Function.comp, Nat.succ_eq_add_one, List.take_succ_cons, nkids_cons x kids i c h]
  simp only [List.getD_eq_getElem?_getD, List.getElem?_cons_succ]

/-- the specification rows of a view placed under the flag context `ctx` -/
def specRows (style : Style) (ctx : List Bool) (v : Tree α) : List (String × String × α) :=
  (addrs v).filterMap (fun b =>
    match sub v b with
    | none => none
    | some u => some ((pf style (ctx ++ flagsAt v b)).1, (pf style (ctx ++ flagsAt v b)).2, u.label))

theorem rowsS_eq (style : Style) (childiter : List (Tree α) → List (Tree α)) (m : Option Int)
    (t : Tree α) :
    rowsS style childiter m t = specRows style [] (renderView childiter m (t.height + 1) 0 t) := rfl

theorem specRows_leaf (style : Style) (ctx : List Bool) (a : α) :
    specRows style ctx (node a []) = [((pf style ctx).1, (pf style ctx).2, a)] := by
  simp [specRows, addrs, addrsL, sub, flagsAt_nil]

/-- `maxlevel is None or level + 1 < maxlevel`, the test that `nextF` and `renderView` both make -/
def descend (m : Option Int) (level : Int) : Bool :=
  match m with
  | none => true
  | some k => decide (level + 1 < k)

theorem nextF_succ (style : Style) (childiter : List (Tree α) → List (Tree α))
    (m : Option Int) (fuel : Nat) (n : Tree α) (ctx : List Bool) (level : Int) :
    nextF style childiter m (fuel + 1) n ctx level =
      item style ctx n ::
        (if descend m level then
          match n.kids with
          | [] => []
          | c :: cs => (isLast (childiter (c :: cs))).flatMap (fun p =>
              nextF style childiter m fuel p.1 (ctx ++ [!p.2]) (level + 1))
         else []) := by
  cases m <;> rfl

theorem renderView_succ (childiter : List (Tree α) → List (Tree α))
    (m : Option Int) (fuel : Nat) (a : α) (cs : List (Tree α)) (level : Int) :
    renderView childiter m (fuel + 1) level (node a cs) =
      node a (if descend m level then
        (match cs with
         | [] => []
         | c :: cs' => (childiter (c :: cs')).map (renderView childiter m fuel (level + 1)))
        else []) := by
  cases m <;> rfl

/-- the specification rows of a node: its own row, then the rows of each child under the context
extended by "this child has a following sibling" -/
theorem specRows_node (style : Style) (ctx : List Bool) (a : α) (kids : List (Tree α)) :
    specRows style ctx (node a kids) =
      ((pf style ctx).1, (pf style ctx).2, a) ::
        (kids.mapIdx fun i c => specRows style (ctx ++ [decide (i + 1 < kids.length)]) c).flatten := by
  simp only [specRows, addrs_node, List.filterMap_cons, sub, flagsAt_nil, List.append_nil,
    label_node, List.filterMap_flatten, map_mapIdx, List.filterMap_map]
  congr 2
  apply List.mapIdx_eq_mapIdx_iff.mpr
  intro i hi
  have hget : kids[i]? = some kids[i] := List.getElem?_eq_getElem hi
  congr 1
  funext b
  simp only [Function.comp, sub_cons_of_kid (node a kids) _ _ _ hget, flagsAt_cons a kids _ _ hget,
    List.append_assoc, List.singleton_append]

theorem isLast_eq_mapIdx {β : Type} (l : List β) :
    isLast l = l.mapIdx fun i y => (y, !decide (i + 1 < l.length)) := by
  induction l with
  | nil => rfl
  | cons y ys ih =>
    rw [isLast_cons, ih, List.mapIdx_cons]
    cases ys <;> simp

theorem nextF_eq_specRows (style : Style) (childiter : List (Tree α) → List (Tree α))
    (m : Option Int) : ∀ (fuel : Nat) (n : Tree α) (ctx : List Bool) (level : Int),
    (nextF style childiter m fuel n ctx level).map proj =
      specRows style ctx (renderView childiter m fuel level n) := by
  intro fuel
  induction fuel with
  | zero =>
    intro n ctx level
    cases n with
    | node a cs => simp [nextF, renderView, specRows_leaf, proj_item]
  | succ fuel ih =>
    intro n ctx level
    cases n with
    | node a cs =>
      simp only [nextF_succ, renderView_succ, kids_node, specRows_node, List.map_cons, proj_item,
        label_node]
      refine congrArg _ ?_
      cases descend m level with
      | false => simp
      | true =>
        cases cs with
        | nil => simp
        | cons c cs' =>
          simp only [if_true, isLast_eq_mapIdx, List.flatMap_def, List.map_flatten, map_mapIdx,
            mapIdx_map, List.length_map, Bool.not_not, ih]

theorem length_join_segs (style : Style) (w : Nat)
    (hv : style.vertical.length = w) (he : style.end_.length = w) (fl : List Bool) :
    (String.join (segs style fl)).length = fl.length * w := by
  induction fl with
  | nil => simp [segs]
  | cons f fs ih =>
    simp only [segs, List.map_cons, String.join_cons, String.length_append, List.length_cons] at ih ⊢
    rw [ih, Nat.succ_mul]
    cases f <;> simp [hv, he, Style.empty, Nat.add_comm]

theorem pf_length (style : Style) (w : Nat) (hv : style.vertical.length = w)
    (hc : style.cont.length = w) (he : style.end_.length = w) (fl : List Bool) :
    (pf style fl).1.length = fl.length * w ∧ (pf style fl).2.length = fl.length * w := by
  rcases List.eq_nil_or_concat fl with rfl | ⟨fs, l, rfl⟩
  · simp [pf_nil]
  · simp only [pf, List.concat_eq_append, List.getLast?_concat, List.dropLast_concat,
      String.length_append, length_join_segs style w hv he, List.length_append,
      List.length_singleton]
    cases l <;> simp [hc, he, Nat.succ_mul]

theorem mapL_eq_map {β : Type} (f : α → β) (cs : List (Tree α)) : mapL f cs = cs.map (Tree.map f) :=
  mapL_eq f cs

theorem depths_node (d : Nat) (a : α) (ks : List (Tree α)) :
    (addrs (node a ks)).map (·.length + d) =
      d :: ks.flatMap fun c => (addrs c).map (·.length + (d + 1)) := by
  rw [addrs_node, List.map_cons, List.map_flatten, ← List.flatMap_id, List.flatMap_map,
    List.length_nil, Nat.zero_add]
  refine congrArg _ ?_
  refine flatMap_mapIdx ks fun i c _ => ?_
  rw [id, List.map_map]
  exact List.map_congr_left fun b _ => by
    rw [Function.comp_apply, List.length_cons, Nat.add_assoc, Nat.add_comm 1 d]

/-- the parser reads a forest back from its depth list, followed by something that does not
continue it.  The induction is on the fuel, as the parser's recursion: it bounds the size. -/
theorem forestOfDepths_depths : ∀ (fuel : Nat) (ts : List (Tree α)) (d : Nat) (rest : List Nat),
    sizeL ts ≤ fuel → (∀ x, rest.head? = some x → x < d) →
    forestOfDepths fuel d ((ts.flatMap fun t => (addrs t).map (·.length + d)) ++ rest) =
      (ts.map (Tree.map fun _ => ()), rest) := by
  intro fuel
  induction fuel with
  | zero =>
    intro ts d rest hsz _
    cases ts with
    | nil => rfl
    | cons t ts => cases t; simp only [sizeL, size] at hsz; omega
  | succ f ih =>
    intro ts d rest hsz hrest
    cases ts with
    | nil =>
      cases rest with
      | nil => rfl
      | cons x xs =>
        simp only [List.flatMap_nil, List.nil_append, forestOfDepths]
        rw [if_neg (Nat.ne_of_lt (hrest x rfl))]; rfl
    | cons t ts =>
      cases t with
      | node a ks =>
        simp only [sizeL, size] at hsz
        simp only [List.flatMap_cons, depths_node, List.cons_append, List.append_assoc]
        rw [forestOfDepths, if_pos rfl]
        -- what follows the children is a sibling's row (depth `d`) or `rest`
        have hnext : ∀ x, ((ts.flatMap fun t => (addrs t).map (·.length + d)) ++ rest).head? =
            some x → x < d + 1 := by
          intro x hx
          cases ts with
          | nil => exact Nat.lt_succ_of_lt (hrest x hx)
          | cons u us =>
            cases u
            rw [List.flatMap_cons, depths_node] at hx
            cases hx; exact Nat.lt_succ_self d
        rw [ih ks (d + 1) _ (by omega) hnext]
        simp only [ih ts d rest (by omega) hrest, List.map_cons, Tree.map, mapL_eq]

end Spec
end Anytree
