import Anytree.Spec.Resolver
import Anytree.Lemmas.Split
import Anytree.Lemmas.Nav
import Anytree.Lemmas.Walker
/-! What `get` and `glob` share: the reading of one component (`comp`), one step of the walk, the
addresses of a node's children. -/
namespace Anytree
namespace ResolverLemmas
open Tree Resolver Spec
variable {α : Type}
universe u

/-! `stepS`, `getLoop`, `denote`, `hasDeadEnd` (`Spec/Resolver`) and `globP` (`Lemmas/Glob`) test a
component by the same chain of string comparisons; `comp` names the outcome. -/

inductive Comp | up | stay | deep | named

def comp (p : String) : Comp :=
  if p == ".." then .up else if p == "" || p == "." then .stay else if p == "**" then .deep else .named

theorem comp_ite {β : Sort u} (p : String) (x y z w : β) :
    (if p == ".." then x else if p == "" || p == "." then y else if p == "**" then z else w) =
      match comp p with
      | .up => x | .stay => y | .deep => z | .named => w := by
  unfold comp
  by_cases h1 : (p == "..") = true
  · rw [if_pos h1, if_pos h1]
  rw [if_neg h1, if_neg h1]
  by_cases h2 : (p == "" || p == ".") = true
  · rw [if_pos h2, if_pos h2]
  rw [if_neg h2, if_neg h2]
  by_cases h3 : (p == "**") = true
  · rw [if_pos h3, if_pos h3]
  · rw [if_neg h3, if_neg h3]

/-- `get` does not test for `**` -/
theorem comp_ite3 {β : Sort u} (p : String) (x y w : β) :
    (if p == ".." then x else if p == "" || p == "." then y else w) =
      match comp p with
      | .up => x | .stay => y | _ => w := by
  have := comp_ite p x y w w
  rw [ite_self] at this
  rw [this]; cases comp p <;> rfl

theorem comp_spec (p : String) : match comp p with
    | .up => p = ".." | .stay => p = "" ∨ p = "." | .deep => p = "**" | .named => True := by
  unfold comp
  by_cases h1 : (p == "..") = true
  · rw [if_pos h1]; exact eq_of_beq h1
  rw [if_neg h1]
  by_cases h2 : (p == "" || p == ".") = true
  · rw [if_pos h2]; simpa using h2
  rw [if_neg h2]
  by_cases h3 : (p == "**") = true
  · rw [if_pos h3]; exact eq_of_beq h3
  · rw [if_neg h3]; trivial

theorem comp_up {p : String} (h : comp p = .up) : p = ".." := by
  have := comp_spec p; rw [h] at this; exact this

theorem comp_stay {p : String} (h : comp p = .stay) : p = "" ∨ p = "." := by
  have := comp_spec p; rw [h] at this; exact this

theorem comp_deep {p : String} (h : comp p = .deep) : p = "**" := by
  have := comp_spec p; rw [h] at this; exact this

theorem stepS_cons (c : Ctx α) (a : Addr) (p : String) :
    stepS c a p = match comp p with
      | .up => if a = [] then .error (.root a) else .ok a.dropLast
      | .stay => .ok a
      | _ => match getChild c a p with
        | some ch => .ok ch
        | none => .error (.child a p) := by
  rw [stepS]; exact comp_ite3 p _ _ _

theorem getLoop_cons (c : Ctx α) (p : String) (rest : List String) (a : Addr) :
    getLoop c (p :: rest) a = match comp p with
      | .up => if a = [] then (if c.relax then .ok none else .error (.root a))
               else getLoop c rest a.dropLast
      | .stay => getLoop c rest a
      | _ => match getChild c a p with
        | some ch => getLoop c rest ch
        | none => if c.relax then .ok none else .error (.child a p) := by
  rw [getLoop]; exact comp_ite3 p _ _ _

theorem stepS_error {c : Ctx α} {b : Addr} {p : String} {e : RErr} (h : stepS c b p = .error e) :
    (p = ".." ∧ b = [] ∧ e = .root []) ∨ (e = .child b p ∧ getChild c b p = none) := by
  rw [stepS_cons] at h
  generalize hk : comp p = k at h
  have hchild : (match getChild c b p with
      | some ch => .ok ch | none => .error (.child b p) : Except RErr Addr) = .error e →
      e = .child b p ∧ getChild c b p = none := by
    cases getChild c b p with
    | none => intro h; cases h; exact ⟨rfl, rfl⟩
    | some ch => intro h; cases h
  cases k with
  | up =>
    simp only [] at h
    split at h
    · next hb => cases h; exact .inl ⟨comp_up hk, hb, by rw [hb]⟩
    · cases h
  | stay => cases h
  | deep => exact .inr (hchild h)
  | named => exact .inr (hchild h)

theorem stepS_up (c : Ctx α) {a : Addr} (ha : a ≠ []) : stepS c a ".." = .ok a.dropLast := by
  rw [stepS_cons]; exact if_neg ha

theorem stepS_name (c : Ctx α) (a : Addr) {p : String} (h : p ≠ "" ∧ p ≠ "." ∧ p ≠ "..") :
    stepS c a p = match getChild c a p with
      | some ch => .ok ch
      | none => .error (.child a p) := by
  rw [stepS_cons]
  generalize hk : comp p = k
  cases k with
  | up => exact absurd (comp_up hk) h.2.2
  | stay => exact absurd (comp_stay hk) (not_or.mpr ⟨h.1, h.2.1⟩)
  | deep => rfl
  | named => rfl

/-! the specification does not read `relax` below `getS` -/

theorem stepS_relax (c : Ctx α) (b : Bool) (a : Addr) (p : String) :
    stepS { c with relax := b } a p = stepS c a p := rfl

theorem walkPath_relax (c : Ctx α) (b : Bool) (ps : List String) (a : Addr) :
    walkPath { c with relax := b } ps a = walkPath c ps a := by
  induction ps generalizing a with
  | nil => rfl
  | cons p ps ih =>
    simp only [walkPath, stepS_relax]
    cases stepS c a p with
    | ok x => exact ih _
    | error e => rfl

theorem getStrictS_relax (c : Ctx α) (b : Bool) (a : Addr) (path : String) :
    getStrictS { c with relax := b } a path = getStrictS c a path := by
  unfold getStrictS
  simp only [walkPath_relax]
  rfl

theorem mem_children_iff (c : Ctx α) (a ch : Addr) :
    ch ∈ c.children a ↔ ∃ i, i < Spec.nkids c.r a ∧ ch = a ++ [i] := by
  rw [Ctx.children, Nav.childAddrs_eq, List.mem_map]
  exact exists_congr fun i => by rw [List.mem_range, eq_comm]

theorem children_eq (c : Ctx α) (a : Addr) (t : Tree α) (h : sub c.r a = some t) :
    c.children a = (List.range t.kids.length).map (fun i => a ++ [i]) := by
  simp [Ctx.children, Nav.childAddrs, h]

theorem children_nodup (c : Ctx α) (a : Addr) : (c.children a).Nodup := Nav.nodup_childAddrs c.r a

theorem children_length (c : Ctx α) (a : Addr) : ∀ ch ∈ c.children a, ch.length = a.length + 1 := by
  intro ch hch
  obtain ⟨i, _, rfl⟩ := (mem_children_iff c a ch).mp hch
  simp

theorem children_prefix (c : Ctx α) (a : Addr) : ∀ ch ∈ c.children a, a <+: ch := by
  intro ch hch
  obtain ⟨i, _, rfl⟩ := (mem_children_iff c a ch).mp hch
  exact List.prefix_append _ _

end ResolverLemmas
end Anytree
