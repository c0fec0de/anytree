import Anytree.Lemmas.Tree
/-!
Relabelling (`Tree.map`) keeps the shape, so every traversal commutes with it; `decorate` and
`addrTreeAux` are relabellings of the same shape.  The addresses of a tree (`addrs`) and the lookup
along an address (`sub`): through a node's children, valid exactly where `sub` finds something,
pairwise distinct, as many as nodes.  `height` in terms of addresses (`height_spec`) and the predicate
`Valid` are in `Props/C04`.  The admitted tree and the iterator mirrors have no relabelling lemma.
-/
namespace Anytree
namespace Tree
variable {α β γ : Type}

theorem heightL_map (f : Tree α → Tree β) (ts : List (Tree α))
    (h : ∀ c ∈ ts, height (f c) = height c) : heightL (ts.map f) = heightL ts := by
  induction ts with
  | nil => rfl
  | cons t ts ih =>
    simp only [List.map_cons, heightL, h t (List.mem_cons_self),
      ih (fun c hc => h c (List.mem_cons_of_mem _ hc))]

theorem pre_map (f : α → β) : ∀ t : Tree α, pre (map f t) = (pre t).map f := by
  refine induction_on fun a cs ih => ?_
  simp only [map, pre, preL_eq, mapL_eq, List.flatMap_map, List.map_cons, List.map_flatMap]
  rw [flatMap_congr ih]

theorem post_map (f : α → β) : ∀ t : Tree α, post (map f t) = (post t).map f := by
  refine induction_on fun a cs ih => ?_
  simp only [map, post, postL_eq, mapL_eq, List.flatMap_map, List.map_append, List.map_flatMap]
  rw [flatMap_congr ih]; rfl

theorem atDepth_map (f : α → β) (k : Nat) (t : Tree α) :
    atDepth k (map f t) = (atDepth k t).map f := by
  induction t using induction_on generalizing k with
  | h a cs ih =>
    cases k with
    | zero => rfl
    | succ k =>
      simp only [map, atDepth, atDepthL_eq, mapL_eq, List.flatMap_map, List.map_flatMap]
      exact flatMap_congr fun c hc => ih c hc k

theorem height_map (f : α → β) : ∀ t : Tree α, height (map f t) = height t := by
  refine induction_on fun a cs ih => ?_
  simp only [map, height, mapL_eq]
  exact heightL_map _ cs ih

theorem levels_map (f : α → β) (t : Tree α) : levels (map f t) = (levels t).map (List.map f) := by
  simp [levels, height_map, atDepth_map]

theorem map_map (g : β → γ) (f : α → β) : ∀ t : Tree α, map g (map f t) = map (g ∘ f) t := by
  refine induction_on fun a cs ih => ?_
  simp only [map, mapL_eq, List.map_map, Function.comp_apply]
  refine congrArg _ ?_
  exact List.map_congr_left ih

theorem map_label_decorate : ∀ t : Tree α, map label (decorate t) = t := by
  refine induction_on fun a cs ih => ?_
  simp only [decorate, map, mapL_eq, decorateL_eq, List.map_map, label_node]
  refine congrArg _ ?_
  exact (List.map_congr_left ih).trans (List.map_id _)

theorem addrTreeAuxL_eq (cs : List (Tree α)) : ∀ (p : Addr) (i : Nat),
    addrTreeAuxL p i cs = cs.mapIdx fun j c => addrTreeAux (p ++ [i + j]) c := by
  induction cs with
  | nil => intro p i; rfl
  | cons c cs ih =>
    intro p i
    simp only [addrTreeAuxL, ih, List.mapIdx_cons, Nat.add_zero]
    congr 2
    funext j c
    rw [Nat.add_assoc, Nat.add_comm 1 j]

theorem addrTreeAux_eq_map : ∀ (t : Tree α) (p : Addr),
    addrTreeAux p t = map (p ++ ·) (addrTree t) := by
  refine induction_on fun a cs ih p => ?_
  simp only [addrTree, addrTreeAux, addrTreeAuxL_eq, map, mapL_eq, List.append_nil, List.nil_append]
  refine congrArg _ ?_
  apply List.ext_getElem (by simp)
  intro i hi _
  simp only [List.getElem_map, List.getElem_mapIdx]
  have hc : cs[i]'(by simpa using hi) ∈ cs := List.getElem_mem _
  rw [ih _ hc, ih _ hc [0 + i], map_map]
  congr 1
  funext b
  simp

theorem height_addrTreeAux (t : Tree α) : ∀ p : Addr, height (addrTreeAux p t) = height t := by
  induction t using Tree.rec
    (motive_2 := fun cs => ∀ (p : Addr) (i : Nat),
      heightL (addrTreeAuxL p i cs) = heightL cs) with
  | node x cs ih => intro p; simp only [addrTreeAux, height]; exact ih p 0
  | nil => rename_i p i; simp only [addrTreeAuxL, heightL]
  | cons c cs ihc ihcs => rename_i p i; simp only [addrTreeAuxL, heightL, ihc, ihcs]

theorem height_addrTree (t : Tree α) : height (addrTree t) = height t := height_addrTreeAux t []

@[simp] theorem label_addrTree (t : Tree α) : (addrTree t).label = [] := by
  cases t; rfl

theorem addrTree_node (a : α) (cs : List (Tree α)) :
    addrTree (node a cs) = node [] (cs.mapIdx fun i c => map (i :: ·) (addrTree c)) := by
  simp only [addrTree, addrTreeAux, addrTreeAuxL_eq, List.nil_append, Nat.zero_add]
  refine congrArg _ ?_
  apply List.mapIdx_eq_mapIdx_iff.mpr
  intro i hi
  exact addrTreeAux_eq_map _ _

theorem addrsL_eq (cs : List (Tree α)) : ∀ i : Nat,
    addrsL i cs = (cs.mapIdx fun j c => (addrs c).map ((i + j) :: ·)).flatten := by
  induction cs with
  | nil => intro i; rfl
  | cons c cs ih =>
    intro i
    simp only [addrsL, ih, List.mapIdx_cons, List.flatten_cons, Nat.add_zero]
    congr 3
    funext j c
    rw [Nat.add_assoc, Nat.add_comm 1 j]

theorem addrs_node (a : α) (cs : List (Tree α)) :
    addrs (node a cs) = [] :: (cs.mapIdx fun i c => (addrs c).map (i :: ·)).flatten := by
  simp [addrs, addrsL_eq]

theorem pre_addrTree : ∀ t : Tree α, pre (addrTree t) = addrs t := by
  refine induction_on fun a cs ih => ?_
  rw [addrTree_node, addrs_node, pre_eq_cons, label_node, kids_node, List.flatMap_def, map_mapIdx]
  congr 2
  exact List.mapIdx_eq_mapIdx_iff.mpr fun i hi => by rw [pre_map, ih _ (List.getElem_mem hi)]

theorem pre_addrTreeAux (t : Tree α) (a : Addr) :
    pre (addrTreeAux a t) = (addrs t).map (a ++ ·) := by
  rw [addrTreeAux_eq_map, pre_map, pre_addrTree]

theorem sub_append (t : Tree α) (b c : Addr) : sub t (b ++ c) = (sub t b).bind (fun u => sub u c) := by
  induction b generalizing t with
  | nil => simp [sub]
  | cons i is ih =>
    cases t with
    | node x cs =>
      simp only [List.cons_append, sub]
      cases cs[i]? with
      | none => simp
      | some c' => simp only [ih]

theorem sub_singleton (t : Tree α) (i : Nat) : sub t [i] = t.kids[i]? := by
  cases t with
  | node x cs =>
    simp only [sub, kids_node]
    cases cs[i]? with
    | none => rfl
    | some c => rfl

theorem sub_concat (t : Tree α) (a : Addr) (i : Nat) :
    sub t (a ++ [i]) = (sub t a).bind (·.kids[i]?) := by
  rw [sub_append]; congr 1; funext u; exact sub_singleton u i

theorem sub_cons_of_kid (t : Tree α) (i : Nat) (is : Addr) (c : Tree α) (hc : t.kids[i]? = some c) :
    sub t (i :: is) = sub c is := by
  cases t with
  | node x cs =>
    simp only [kids_node] at hc
    simp only [sub, hc]

theorem mem_addrs_node {a : α} {cs : List (Tree α)} {b : Addr} :
    b ∈ addrs (node a cs) ↔
      b = [] ∨ ∃ i c b', cs[i]? = some c ∧ b' ∈ addrs c ∧ b = i :: b' := by
  simp only [addrs_node, List.mem_cons, List.mem_flatten, List.mem_mapIdx]
  constructor
  · rintro (rfl | ⟨_, ⟨i, hi, rfl⟩, hb⟩)
    · exact Or.inl rfl
    · obtain ⟨b', hb', rfl⟩ := List.mem_map.mp hb
      exact Or.inr ⟨i, cs[i], b', List.getElem?_eq_getElem hi, hb', rfl⟩
  · rintro (rfl | ⟨i, c, b', hc, hb', rfl⟩)
    · exact Or.inl rfl
    · obtain ⟨hi, rfl⟩ := List.getElem?_eq_some_iff.mp hc
      exact Or.inr ⟨_, ⟨i, hi, rfl⟩, List.mem_map.mpr ⟨b', hb', rfl⟩⟩

theorem mem_addrs : ∀ (t : Tree α) (b : Addr), b ∈ addrs t ↔ (sub t b).isSome = true := by
  refine induction_on fun a cs ih b => ?_
  rw [mem_addrs_node]
  cases b with
  | nil => simp [sub]
  | cons i b =>
    simp only [reduceCtorEq, false_or, List.cons.injEq, sub]
    constructor
    · rintro ⟨_, c, _, hc, hb', rfl, rfl⟩
      rw [hc]; exact (ih c (List.mem_of_getElem? hc) _).mp hb'
    · intro h
      cases hc : cs[i]? with
      | none => simp [hc] at h
      | some c =>
        rw [hc] at h
        exact ⟨i, c, b, hc, (ih c (List.mem_of_getElem? hc) b).mpr h, rfl, rfl⟩

theorem pre_eq_addrs : ∀ t : Tree α, pre t = (addrs t).filterMap (fun a => (sub t a).map label) := by
  refine induction_on fun a cs ih => ?_
  rw [pre_eq_cons, addrs_node, List.filterMap_cons, label_node, kids_node, ← List.flatMap_id',
    List.filterMap_flatMap]
  simp only [sub, Option.map_some, label_node]
  refine congrArg _ ?_
  refine (flatMap_mapIdx cs fun i c hc => ?_).symm
  rw [List.filterMap_map, ih c (List.mem_of_getElem? hc)]
  congr 1; funext b
  rw [Function.comp_apply, sub_cons_of_kid (node a cs) i b c hc]

theorem length_addrs (t : Tree α) : (addrs t).length = t.size := by
  induction t using Tree.rec
    (motive_2 := fun cs => ∀ i : Nat, (addrsL i cs).length = sizeL cs) with
  | node x cs ih => simp [addrs, size, ih, Nat.add_comm]
  | nil => simp [addrsL, sizeL]
  | cons c cs ihc ihcs => rename_i i; simp [addrsL, sizeL, ihc, ihcs]

theorem addrs_ne_nil (t : Tree α) : addrs t ≠ [] := by
  cases t; simp [addrs]

theorem nodup_addrs : ∀ t : Tree α, (addrs t).Nodup := by
  refine induction_on fun a cs ih => ?_
  rw [addrs_node, List.nodup_cons]
  refine ⟨fun h => ?_, List.pairwise_flatten.mpr ⟨fun l hl => ?_,
    List.pairwise_iff_getElem.mpr fun i j hi hj hij x hx y hy e => ?_⟩⟩
  · obtain ⟨l, hl, h⟩ := List.mem_flatten.mp h
    obtain ⟨i, hi, rfl⟩ := List.mem_mapIdx.mp hl
    simp at h
  · obtain ⟨i, hi, rfl⟩ := List.mem_mapIdx.mp hl
    exact List.Pairwise.map _ (fun a b hab he => hab (List.cons.inj he).2)
      (ih _ (List.getElem_mem hi))
  · -- addresses through different children differ in their first index
    simp only [List.getElem_mapIdx] at hx hy
    obtain ⟨b, _, rfl⟩ := List.mem_map.mp hx
    obtain ⟨b', _, rfl⟩ := List.mem_map.mp hy
    exact Nat.ne_of_lt hij (List.cons.inj e).1

end Tree
end Anytree
