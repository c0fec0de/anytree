import Anytree.Spec.Attr
/-!
For C20.  An object's `__dict__` is an association list: what `dictGet` reads after `dictPut`.  `setattr`
is taken by its three cases (plain object or local name: store here; any other name on a link: the same
call on the target), the store being the one-object update `upd`.  `upd` changes no `target`, so
`Spec.resolve` and `Spec.LinkClean` survive it.  What a write or a read does along a whole chain of links
(`setattr_lands`, `getattr_eq_readS`) is in Props/C20.
-/
namespace Anytree
namespace Attr
variable {V : Type}

theorem dictGet_nil (name : String) : dictGet ([] : List (String × V)) name = none := rfl

theorem dictGet_cons (e : String × V) (d : List (String × V)) (name : String) :
    dictGet (e :: d) name = if e.1 == name then some e.2 else dictGet d name := by
  unfold dictGet
  by_cases h : (e.1 == name) = true
  · simp [h]
  · simp [h]

theorem dictGet_map_put_self (d : List (String × V)) (name : String) (v : V)
    (hany : d.any (fun e => e.1 == name) = true) :
    dictGet (d.map (fun e => if e.1 == name then (name, v) else e)) name = some v := by
  induction d with
  | nil => cases hany
  | cons e d ih =>
    rw [List.map_cons, dictGet_cons]
    rw [List.any_cons] at hany
    cases he : (e.1 == name) with
    | true => simp only [if_true, beq_self_eq_true]
    | false =>
      rw [he, Bool.false_or] at hany
      simp only [Bool.false_eq_true, if_false, he]
      exact ih hany

theorem dictGet_append_put_self (d : List (String × V)) (name : String) (v : V)
    (hany : d.any (fun e => e.1 == name) = false) :
    dictGet (d ++ [(name, v)]) name = some v := by
  induction d with
  | nil => simp [dictGet_cons]
  | cons e d ih =>
    rw [List.cons_append, dictGet_cons]
    simp only [List.any_cons, Bool.or_eq_false_iff] at hany
    simp only [hany.1]
    exact ih hany.2

theorem dictGet_dictPut_self (d : List (String × V)) (name : String) (v : V) :
    dictGet (dictPut d name v) name = some v := by
  unfold dictPut
  by_cases hany : d.any (fun e => e.1 == name) = true
  · rw [if_pos hany]; exact dictGet_map_put_self d name v hany
  · rw [if_neg hany]
    exact dictGet_append_put_self d name v (Bool.eq_false_iff.2 hany)

theorem mem_dictPut {d : List (String × V)} {name : String} {v : V} {e : String × V}
    (he : e ∈ dictPut d name v) : e ∈ d ∨ e = (name, v) := by
  unfold dictPut at he
  by_cases hany : d.any (fun e => e.1 == name) = true
  · rw [if_pos hany] at he
    obtain ⟨a, ha, hae⟩ := List.mem_map.1 he
    by_cases hk : (a.1 == name) = true
    · rw [if_pos hk] at hae; exact Or.inr hae.symm
    · rw [if_neg hk] at hae; exact Or.inl (hae ▸ ha)
  · rw [if_neg hany] at he
    rcases List.mem_append.1 he with h | h
    · exact Or.inl h
    · exact Or.inr (by simpa using h)

theorem dictGet_none_of_keys (d : List (String × V)) (L : List String) (name : String)
    (hd : ∀ e ∈ d, L.contains e.1 = true) (hn : L.contains name = false) :
    dictGet d name = none := by
  rw [dictGet, Option.map_eq_none_iff, List.find?_eq_none]
  intro e he hk
  have := hd e he
  rw [eq_of_beq hk, hn] at this
  cases this

theorem foldlM_option_inv {α β : Type} (P : α → Prop) (f : α → β → Option α)
    (hf : ∀ a b a', P a → f a b = some a' → P a') :
    ∀ (l : List β) (a a' : α), P a → l.foldlM f a = some a' → P a' := by
  intro l
  induction l with
  | nil => intro a a' ha h; cases h; exact ha
  | cons b l ih =>
    intro a a' ha h
    rw [List.foldlM_cons] at h
    obtain ⟨a1, h1, h2⟩ := Option.bind_eq_some_iff.mp h
    exact ih a1 a' (hf a b a1 ha h1) h2

/-- the update that `setattr` writes out inline where it stores (`setattr_succ_plain`, `setattr_succ_local`) -/
def upd (h : Heap V) (i : Nat) (name : String) (v : V) : Heap V :=
  fun j => if j = i then { h i with dict := dictPut (h i).dict name v } else h j

theorem upd_target (h : Heap V) (i : Nat) (name : String) (v : V) (j : Nat) :
    (upd h i name v j).target = (h j).target := by
  unfold upd
  by_cases hj : j = i
  · subst hj; simp
  · simp [hj]

theorem upd_self_dict (h : Heap V) (i : Nat) (name : String) (v : V) :
    (upd h i name v i).dict = dictPut (h i).dict name v := by
  simp [upd]

theorem upd_other (h : Heap V) (i : Nat) (name : String) (v : V) (j : Nat) (hj : j ≠ i) :
    upd h i name v j = h j := if_neg hj

theorem setattr_zero (h : Heap V) (i : Nat) (name : String) (v : V) :
    setattr h 0 i name v = none := rfl

theorem setattr_succ_plain (h : Heap V) (fuel i : Nat) (name : String) (v : V)
    (ht : (h i).target = none) : setattr h (fuel + 1) i name v = some (upd h i name v) := by
  rw [setattr, ht]; rfl

theorem setattr_succ_local (h : Heap V) (fuel i t : Nat) (name : String) (v : V)
    (ht : (h i).target = some t) (hl : Generated.symlinkSetattrLocal.contains name = true) :
    setattr h (fuel + 1) i name v = some (upd h i name v) := by
  rw [setattr, ht]; exact if_pos hl

theorem setattr_succ_fwd (h : Heap V) (fuel i t : Nat) (name : String) (v : V)
    (ht : (h i).target = some t) (hl : Generated.symlinkSetattrLocal.contains name = false) :
    setattr h (fuel + 1) i name v = setattr h fuel t name v := by
  rw [setattr, ht]; exact if_neg (by rw [hl]; exact Bool.false_ne_true)

end Attr

namespace Spec
open Attr
variable {V : Type}

theorem resolve_congr (h h' : Heap V) (ht : ∀ j, (h' j).target = (h j).target) (fuel i : Nat) :
    resolve h' fuel i = resolve h fuel i := by
  fun_induction resolve h fuel i with
  | case1 => rfl
  | case2 n i hi => simp only [resolve, ht, hi]
  | case3 n i t hi ih => simp only [resolve, ht, hi, ih]

theorem isLocal_false {name : String} (hn : isLocal name = false) :
    Generated.symlinkSetattrLocal.contains name = false ∧
    Generated.symlinkGetattrLocal.contains name = false ∧
    Generated.symlinkGetattrGuarded.contains name = false := by
  unfold isLocal at hn
  simp only [Bool.or_eq_false_iff] at hn
  exact ⟨hn.1.1, hn.1.2, hn.2⟩

theorem linkClean_upd (h : Heap V) (hc : LinkClean h) (i : Nat) (name : String) (v : V)
    (hok : (h i).target ≠ none → Generated.symlinkSetattrLocal.contains name = true) :
    LinkClean (upd h i name v) := by
  intro j hj e he
  rw [upd_target] at hj
  by_cases hji : j = i
  · subst hji
    rw [upd_self_dict] at he
    rcases mem_dictPut he with h1 | h1
    · exact hc j hj e h1
    · rw [h1]; exact hok hj
  · rw [upd_other _ _ _ _ _ hji] at he
    exact hc j hj e he

end Spec
end Anytree
