import Anytree.Lemmas.Forest
/-!
Parent chains in a consistent forest are shorter than the number of nodes (pigeonhole), so the
fuelled loop check decides ancestry exactly.  Then roots: every node has one, chains to the same node
have the same length, and a node has one root.
-/
namespace Anytree
open Forest

namespace Forest

theorem up_prefix {s : Forest} {k x y} (h : s.up k x = some y) : ∀ j, j ≤ k → ∃ z, s.up j x = some z := by
  intro j hj
  cases hz : s.up j x with
  | some z => exact ⟨z, rfl⟩
  | none =>
    have := up_add_none hz (k - j)
    rw [Nat.add_sub_of_le hj, h] at this
    cases this

end Forest

theorem Inv.no_self_ancestor {s : Forest} (h : Inv s) (x : Nat) :
    ∀ k, 0 < k → s.up k x ≠ some x := by
  intro k hk hx
  obtain ⟨m, hm⟩ := h.term x
  have hcyc : ∀ j, s.up (j * k) x = some x := by
    intro j
    induction j with
    | zero => rw [Nat.zero_mul]; rfl
    | succ j ih =>
      rw [Nat.succ_mul, up_add _ _ _ _ ih]; exact hx
  have := up_add_none hm (m * k - m)
  rw [Nat.add_sub_of_le (Nat.le_mul_of_pos_right m hk), hcyc m] at this
  cases this

theorem Inv.up_lt {s : Forest} (h : Inv s) {x : Nat} (hx : x < s.n) :
    ∀ k y, s.up k x = some y → y < s.n := by
  intro k
  fun_induction up s k x with
  | case1 x => intro y hy; cases hy; exact hx
  | case2 k x hp => intro y hy; cases hy
  | case3 k x q hp ih => exact ih (h.lt_of_parent hp).2

/-- the nodes `x, parent x, …` up to `k` steps: distinct in a consistent forest, so there are at most
`s.n` of them (`Inv.chain_lt`) -/
def chainList (s : Forest) : Nat → Nat → List Nat
  | 0, x => [x]
  | k+1, x => x :: (match s.parent x with
    | none => []
    | some p => chainList s k p)

theorem mem_chainList {s : Forest} : ∀ k x z, z ∈ chainList s k x → ∃ j, j ≤ k ∧ s.up j x = some z := by
  intro k
  induction k with
  | zero => intro x z hz; simp [chainList] at hz; subst hz; exact ⟨0, Nat.le_refl _, rfl⟩
  | succ k ih =>
    intro x z hz
    simp only [chainList, List.mem_cons] at hz
    cases hz with
    | inl e => subst e; exact ⟨0, Nat.zero_le _, rfl⟩
    | inr hz =>
      cases hp : s.parent x with
      | none => simp [hp] at hz
      | some p =>
        simp only [hp] at hz
        obtain ⟨j, hj, hu⟩ := ih p z hz
        exact ⟨j + 1, Nat.succ_le_succ hj, (up_succ_of_parent hp j).trans hu⟩

theorem Inv.chainList_props {s : Forest} (h : Inv s) :
    ∀ k x y, s.up k x = some y →
      (chainList s k x).length = k + 1 ∧ (chainList s k x).Nodup := by
  intro k
  induction k with
  | zero => intro x y _; simp [chainList]
  | succ k ih =>
    intro x y hy
    simp only [up] at hy
    cases hp : s.parent x with
    | none => simp [hp] at hy
    | some p =>
      simp only [hp] at hy
      obtain ⟨hl, hn⟩ := ih p y hy
      simp only [chainList, hp, List.length_cons, hl, List.nodup_cons]
      refine ⟨trivial, fun hx' => ?_, hn⟩
      obtain ⟨j, _, hu⟩ := mem_chainList k p x hx'
      exact h.no_self_ancestor x (j + 1) (Nat.succ_pos j) ((up_succ_of_parent hp j).trans hu)

theorem length_le_of_nodup_lt {l : List Nat} {m : Nat} (hn : l.Nodup) (hm : ∀ x ∈ l, x < m) :
    l.length ≤ m := by
  have hsub : l ⊆ List.range m := fun z hz => List.mem_range.mpr (hm z hz)
  simpa only [List.length_range] using hn.length_le_of_subset hsub

theorem Inv.chain_lt {s : Forest} (h : Inv s) {x : Nat} (hx : x < s.n) {k y : Nat}
    (hk : s.up k x = some y) : k < s.n := by
  obtain ⟨hl, hn⟩ := h.chainList_props k x y hk
  have := length_le_of_nodup_lt hn fun z hz =>
    let ⟨j, _, hu⟩ := mem_chainList k x z hz; h.up_lt hx j z hu
  rwa [hl] at this

theorem Inv.onChain_ne_none_of_bound {s : Forest} (h : Inv s) (n : Nat) :
    ∀ fuel p, p < s.n → (∀ k y, s.up k p = some y → k < fuel) → onChain s n fuel p ≠ none := by
  intro fuel p
  fun_induction onChain s n fuel p with
  | case1 p => exact fun _ hb => absurd (hb 0 p rfl) (Nat.lt_irrefl 0)
  | case2 => exact fun _ _ h => nomatch h
  | case3 => exact fun _ _ h => nomatch h
  | case4 fuel p hpn q hq ih =>
    exact fun hp hb => ih (h.lt_of_parent hq).2 fun k y hy =>
      Nat.lt_of_succ_lt_succ (hb (k + 1) y ((up_succ_of_parent hq k).trans hy))

theorem onChain_spec {s : Forest} {n : Nat} (fuel p : Nat) {b : Bool} :
    onChain s n fuel p = some b → (b = true ↔ ∃ j, s.up j p = some n) := by
  fun_induction onChain s n fuel p with
  | case1 => intro h; cases h
  | case2 fuel => intro h; cases h; exact ⟨fun _ => ⟨0, rfl⟩, fun _ => rfl⟩
  | case3 fuel p hpn hp =>
    intro h; cases h
    refine ⟨fun h => (nomatch h), fun ⟨j, hj⟩ => ?_⟩
    cases j with
    | zero => exact absurd (Option.some.inj hj) hpn
    | succ j => rw [up_succ_root hp] at hj; cases hj
  | case4 fuel p hpn q hp ih =>
    intro h
    rw [ih h]
    refine ⟨fun ⟨j, hj⟩ => ⟨j + 1, (up_succ_of_parent hp j).trans hj⟩, fun ⟨j, hj⟩ => ?_⟩
    cases j with
    | zero => exact absurd (Option.some.inj hj) hpn
    | succ j => exact ⟨j, (up_succ_of_parent hp j).symm.trans hj⟩

theorem onChain_false {s : Forest} {n : Nat} (fuel p : Nat) (h : onChain s n fuel p = some false) :
    ∀ j, s.up j p ≠ some n := fun j hj => nomatch (onChain_spec fuel p h).2 ⟨j, hj⟩

theorem onChain_true {s : Forest} {n : Nat} (fuel p : Nat) (h : onChain s n fuel p = some true) :
    ∃ j, s.up j p = some n := (onChain_spec fuel p h).1 rfl

/-- the bounded ancestor test of the specification is exact -/
theorem Inv.isAnc_iff {s : Forest} (h : Inv s) {a x : Nat} (hx : x < s.n) :
    Spec.isAnc s a x = true ↔ ∃ k, 0 < k ∧ s.up k x = some a := by
  simp only [Spec.isAnc, List.any_eq_true, List.mem_range, beq_iff_eq]
  constructor
  · rintro ⟨k, _, hk⟩; exact ⟨k + 1, Nat.succ_pos k, hk⟩
  · rintro ⟨k, hk0, hk⟩
    exact ⟨k - 1, Nat.lt_of_le_of_lt (Nat.sub_le k 1) (h.chain_lt hx hk),
      by rw [Nat.sub_add_cancel hk0]; exact hk⟩

theorem Inv.chain_avoid_iff {s : Forest} (h : Inv s) {n x : Nat} (hn : n < s.n) :
    (∀ j, s.up j n ≠ some x) ↔ x ≠ n ∧ Spec.isAnc s x n = false := by
  constructor
  · intro hch
    refine ⟨fun e => hch 0 (e ▸ rfl), ?_⟩
    cases ha : Spec.isAnc s x n with
    | false => rfl
    | true => obtain ⟨k, _, hk⟩ := (h.isAnc_iff hn).1 ha; exact absurd hk (hch k)
  · rintro ⟨hxn, hanc⟩ j hj
    cases j with
    | zero => exact hxn (Option.some.inj hj).symm
    | succ j => rw [(h.isAnc_iff hn).2 ⟨j + 1, Nat.succ_pos _, hj⟩] at hanc; cases hanc

theorem Inv.onChain_ne_none {s : Forest} (h : Inv s) {fuel p : Nat} (n : Nat) (hp : p < s.n)
    (hfuel : s.n < fuel) : onChain s n fuel p ≠ none :=
  h.onChain_ne_none_of_bound n fuel p hp fun _ _ hy => Nat.lt_trans (h.chain_lt hp hy) hfuel

theorem Inv.onChain_false_of {s : Forest} (h : Inv s) {fuel n p : Nat} (hp : p < s.n)
    (hfuel : s.n < fuel) (hno : ∀ j, s.up j p ≠ some n) : onChain s n fuel p = some false := by
  cases hoc : onChain s n fuel p with
  | none => exact absurd hoc (h.onChain_ne_none n hp hfuel)
  | some b =>
    cases b with
    | true => obtain ⟨j, hj⟩ := onChain_true fuel p hoc; exact absurd hj (hno j)
    | false => rfl

theorem Inv.onChain_true_of {s : Forest} (h : Inv s) {fuel n p : Nat} (hp : p < s.n)
    (hfuel : s.n < fuel) (hbad : ∃ j, s.up j p = some n) : onChain s n fuel p = some true := by
  cases hoc : onChain s n fuel p with
  | none => exact absurd hoc (h.onChain_ne_none n hp hfuel)
  | some b =>
    cases b with
    | true => rfl
    | false => obtain ⟨j, hj⟩ := hbad; exact absurd hj (onChain_false fuel p hoc j)

theorem Inv.onChain_eq {s : Forest} (h : Inv s) {n p fuel : Nat} (hp : p < s.n) (hfuel : s.n < fuel)
    (hpn : p ≠ n) : onChain s n fuel p = some (Spec.isAnc s n p) := by
  cases ha : Spec.isAnc s n p with
  | true =>
    obtain ⟨k, _, hk⟩ := (h.isAnc_iff hp).1 ha
    exact h.onChain_true_of hp hfuel ⟨k, hk⟩
  | false =>
    exact h.onChain_false_of hp hfuel ((h.chain_avoid_iff hp).2 ⟨Ne.symm hpn, ha⟩)

theorem Inv.has_root {s : Forest} (h : Inv s) (x : Nat) :
    ∃ r k, s.up k x = some r ∧ s.parent r = none := by
  obtain ⟨k, hk⟩ := h.term x
  fun_induction up s k x with
  | case1 x => cases hk
  | case2 k x hp => exact ⟨x, 0, rfl, hp⟩
  | case3 k x p hp ih =>
    obtain ⟨r, j, hj, hr⟩ := ih hk
    exact ⟨r, j + 1, (up_succ_of_parent hp j).trans hj, hr⟩

theorem Inv.child_not_on_chain {s : Forest} (h : Inv s) {n c : Nat} (hc : c ∈ s.children n) :
    ∀ j, s.up j n ≠ some c := by
  intro j hj
  have hp : s.parent c = some n := (h.bidir c n).2 hc
  exact h.no_self_ancestor n (j + 1) (Nat.succ_pos j)
    ((up_add j 1 n c hj).trans (up_succ_of_parent hp 0))

theorem Inv.up_length_unique {s : Forest} (h : Inv s) {x r k k' : Nat}
    (h1 : s.up k x = some r) (h2 : s.up k' x = some r) : k = k' := by
  have key : ∀ {a b : Nat}, a ≤ b → s.up a x = some r → s.up b x = some r → a = b := by
    intro a b hab ha hb
    obtain ⟨d, rfl⟩ := Nat.exists_eq_add_of_le hab
    rw [Forest.up_add _ _ _ _ ha] at hb
    cases d with
    | zero => rfl
    | succ d => exact absurd hb (h.no_self_ancestor r (d + 1) (Nat.succ_pos d))
  cases Nat.le_total k k' with
  | inl hle => exact key hle h1 h2
  | inr hle => exact (key hle h2 h1).symm

namespace Forest

theorem root_unique {s : Forest} {x r r' k k' : Nat}
    (h1 : s.up k x = some r) (hr : s.parent r = none)
    (h2 : s.up k' x = some r') (hr' : s.parent r' = none) : r = r' := by
  have key : ∀ {a b ra rb : Nat}, a ≤ b → s.up a x = some ra → s.parent ra = none →
      s.up b x = some rb → ra = rb := by
    intro a b ra rb hab ha hra hb
    obtain ⟨d, rfl⟩ := Nat.exists_eq_add_of_le hab
    rw [up_add _ _ _ _ ha] at hb
    cases d with
    | zero => simpa [up] using hb
    | succ d => rw [up_succ_root hra] at hb; cases hb
  cases Nat.le_total k k' with
  | inl hle => exact key hle h1 hr h2
  | inr hle => exact (key hle h2 hr' h1).symm

end Forest

end Anytree
