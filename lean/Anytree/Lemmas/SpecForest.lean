import Anytree.Lemmas.SpecLinks
/-!
The children assignment in closed form.  The mirror's argument check `checkChildren` is the
specification's `firstBad`, and what it accepts.  `Spec.Legal s n xs`: what the caller of a successful
`n.children = xs` knows; after the delete phase it supplies `Spec.CanAttach` (`Legal.canAttach`), and after
the delete phase and the attach of a legal prefix the links are those of `Spec.childrenAssigned`
(`Spec.attachAll_delChildren`).
-/
namespace Anytree

namespace Props.C02

-- trap: keep `setChildren_refusal` before `checkChildren_eq_firstBad`.  The `match` in the statement of the
-- second is elaborated with the matcher the first declares; in the other order it elaborates to another term

/-- refusal of a children assignment, decided on the pre-state: `TypeError` iff not iterable; else
`TreeError` iff a child is listed twice or (NodeMixin flavour) is not a tree node — whichever comes
first in the sequence; else `LoopError` iff some element is the node itself or one of its ancestors -/
theorem setChildren_refusal (fl : Flavor) (s : Forest) (n : Nat) (xs : Option (List Arg)) :
    (Spec.setChildren fl s n xs).res =
      match xs with
      | none => .error .typeError
      | some as =>
        match Spec.firstBad fl [] as with
        | some e => .error e
        | none =>
          if (argsToNodes as).any (fun x => x = n || Spec.isAnc s x n) then .error .loopError
          else .ok () := by
  cases xs with
  | none => rfl
  | some as =>
    simp only [Spec.setChildren]
    cases Spec.firstBad fl [] as with
    | some e => rfl
    | none =>
      simp only
      split <;> rfl

/-- the mirror's argument check is the specification's -/
theorem checkChildren_eq_firstBad (fl : Flavor) :
    ∀ (seen : List Nat) (as : List Arg),
      checkChildren fl seen as = (match Spec.firstBad fl seen as with
        | some e => .error e
        | none => .ok ()) := by
  intro seen as
  induction as generalizing seen with
  | nil => simp [checkChildren, Spec.firstBad]
  | cons a as ih =>
    cases a with
    | nonNode => cases fl <;> simp [checkChildren, Spec.firstBad]
    | node k =>
      simp only [checkChildren, Spec.firstBad]
      split
      · rfl
      · exact ih _

end Props.C02

theorem Spec.firstBad_range (fl : Flavor) (as : List Arg) (seen : List Nat) (e : Err)
    (he : Spec.firstBad fl seen as = some e) : e = .treeError ∨ (fl = .light ∧ e = .unmodelled) := by
  induction as generalizing seen with
  | nil => cases he
  | cons a as ih =>
    cases a with
    | nonNode =>
      cases fl
      · exact Or.inl (Option.some.inj he).symm
      · exact Or.inr ⟨rfl, (Option.some.inj he).symm⟩
    | node k =>
      simp only [Spec.firstBad] at he
      split at he
      · exact Or.inl (Option.some.inj he).symm
      · exact ih _ he

theorem checkChildren_ok_iff {fl : Flavor} (as : List Arg) : ∀ seen : List Nat,
    checkChildren fl seen as = .ok () ↔
      (argsToNodes as).Nodup ∧ (∀ x ∈ argsToNodes as, x ∉ seen) ∧
      as = (argsToNodes as).map Arg.node := by
  induction as with
  | nil => intro seen; simp [checkChildren, argsToNodes]
  | cons a as ih =>
    intro seen
    cases a with
    | nonNode =>
      refine ⟨fun h => (by cases fl <;> cases h), fun ⟨_, _, h3⟩ => ?_⟩
      simp only [argsToNodes] at h3
      cases hl : argsToNodes as <;> rw [hl] at h3 <;> cases h3
    | node k =>
      simp only [checkChildren, argsToNodes, List.map_cons, List.cons.injEq, true_and,
        List.nodup_cons, List.mem_cons, forall_eq_or_imp]
      by_cases hk : k ∈ seen
      · simp [hk]
      · simp only [List.contains_eq_mem, hk, decide_false, Bool.false_eq_true, if_false,
          ih (k :: seen), List.mem_cons, not_or, not_false_eq_true, true_and]
        -- `k` is new to `seen`, and no later node is `k`: said through `k :: seen` on the left,
        -- through `Nodup (k :: _)` on the right
        exact ⟨fun ⟨h1, h2, h3⟩ => ⟨⟨fun hm => (h2 k hm).1 rfl, h1⟩, fun x hx => (h2 x hx).2, h3⟩,
          fun ⟨⟨h1, h2⟩, h3, h4⟩ => ⟨h2, fun x hx => ⟨fun e => h1 (e ▸ hx), h3 x hx⟩, h4⟩⟩

theorem argsToNodes_nodes (xs : List Nat) : argsToNodes (xs.map Arg.node) = xs := by
  induction xs with
  | nil => rfl
  | cons x xs ih => simp [argsToNodes, ih]

theorem map_node_argsToNodes_iff : ∀ as : List Arg,
    as = (argsToNodes as).map Arg.node ↔ ∀ a ∈ as, a ≠ .nonNode := by
  intro as
  induction as with
  | nil => simp [argsToNodes]
  | cons a as ih =>
    cases a with
    | nonNode =>
      refine ⟨fun h => ?_, fun h => absurd rfl (h .nonNode List.mem_cons_self)⟩
      simp only [argsToNodes] at h
      cases hl : argsToNodes as <;> rw [hl] at h <;> cases h
    | node k =>
      simp only [argsToNodes, List.map_cons, List.cons.injEq, true_and, ih, List.mem_cons,
        forall_eq_or_imp, ne_eq, reduceCtorEq, not_false_eq_true]

theorem checkChildren_nodes (fl : Flavor) (xs : List Nat) (seen : List Nat) (hnd : xs.Nodup)
    (hd : ∀ x ∈ xs, x ∉ seen) : checkChildren fl seen (xs.map Arg.node) = .ok () :=
  (checkChildren_ok_iff _ seen).2 (by rw [argsToNodes_nodes]; exact ⟨hnd, hd, rfl⟩)

theorem Spec.firstBad_nodes (fl : Flavor) (xs : List Nat) (seen : List Nat) (hnd : xs.Nodup)
    (hd : ∀ x ∈ xs, x ∉ seen) : Spec.firstBad fl seen (xs.map Arg.node) = none := by
  have h := Props.C02.checkChildren_eq_firstBad fl seen (xs.map Arg.node)
  rw [checkChildren_nodes fl xs seen hnd hd] at h
  cases hf : Spec.firstBad fl seen (xs.map Arg.node) with
  | none => rfl
  | some e => rw [hf] at h; cases h

theorem Spec.setChildren_ok (fl : Flavor) (s : Forest) (n : Nat) (xs : List Nat) (hnd : xs.Nodup)
    (hok : ∀ x ∈ xs, x ≠ n ∧ Spec.isAnc s x n = false) :
    Spec.setChildren fl s n (some (xs.map Arg.node)) =
      ⟨.ok (), (Spec.attachAll (Spec.delChildren s n).f n xs).1,
        (Spec.delChildren s n).log ++ [Spec.ev .preAttachChildren n xs (Spec.delChildren s n).f] ++
          (Spec.attachAll (Spec.delChildren s n).f n xs).2 ++
          [Spec.ev .postAttachChildren n xs (Spec.attachAll (Spec.delChildren s n).f n xs).1]⟩ := by
  have hany : xs.any (fun x => decide (x = n) || Spec.isAnc s x n) = false := by
    rw [List.any_eq_false]
    intro x hx
    simp [(hok x hx).1, (hok x hx).2]
  simp only [Spec.setChildren, Spec.firstBad_nodes fl xs [] hnd (fun _ _ hm => by simp at hm),
    argsToNodes_nodes, hany, Bool.false_eq_true, if_false]

/-- the nodes `xs` may become the children of `n` -/
structure Spec.Legal (s : Forest) (n : Nat) (xs : List Nat) : Prop where
  inv : Inv s
  node : n < s.n
  nodup : xs.Nodup
  lt : ∀ x ∈ xs, x < s.n
  ok : ∀ x ∈ xs, x ≠ n ∧ Spec.isAnc s x n = false

theorem Spec.Legal.nil {s : Forest} (h : Inv s) {n : Nat} (hn : n < s.n) : Spec.Legal s n [] :=
  ⟨h, hn, List.nodup_nil, fun _ hm => absurd hm List.not_mem_nil,
    fun _ hm => absurd hm List.not_mem_nil⟩

theorem Spec.Legal.canAttach {s : Forest} {n : Nat} {xs : List Nat} (L : Spec.Legal s n xs) :
    Spec.CanAttach (Spec.delChildren s n).f n xs := by
  have R := Spec.delChildren_props L.inv n
  exact ⟨R.inv, R.size ▸ L.node, L.nodup, fun x hx => R.size ▸ L.lt x hx,
    fun _ _ hm => by rw [R.children_self] at hm; exact absurd hm List.not_mem_nil,
    fun x hx j => by
      rw [R.chain]; exact (L.inv.chain_avoid_iff L.node).2 (L.ok x hx) j⟩

theorem Spec.childrenAssigned_parent (s : Forest) (n : Nat) (xs : List Nat) (y : Nat) :
    (Spec.childrenAssigned s n xs).parent y =
      if xs.contains y then some n else if s.parent y = some n then none else s.parent y := rfl

theorem Spec.childrenAssigned_children (s : Forest) (n : Nat) (xs : List Nat) (q : Nat) :
    (Spec.childrenAssigned s n xs).children q =
      if q = n then xs else (s.children q).filter fun c => !xs.contains c := rfl

theorem Spec.attachAll_delChildren {s : Forest} {n : Nat} {pre : List Nat}
    (L : Spec.Legal s n pre) :
    (Spec.attachAll (Spec.delChildren s n).f n pre).1 = Spec.childrenAssigned s n pre ∧
    Inv (Spec.attachAll (Spec.delChildren s n).f n pre).1 ∧
    ∀ j, (Spec.attachAll (Spec.delChildren s n).f n pre).1.up j n = s.up j n := by
  have D := Spec.delChildren_props L.inv n
  have A := Spec.attachAll_props n pre _ L.canAttach
  refine ⟨Forest.ext (A.size.trans D.size) (funext fun y => by rw [A.parent, D.parent]; rfl)
    (funext fun q => ?_), A.inv, fun j => (A.chain j).trans (D.chain j)⟩
  rw [Spec.childrenAssigned_children]
  by_cases hq : q = n
  · rw [hq, A.children_self, D.children_self, if_pos rfl]; rfl
  · rw [A.children_other q hq, D.children_other q hq, if_neg hq]

theorem Spec.Legal.attachAll_n {s : Forest} {n : Nat} {pre : List Nat} (L : Spec.Legal s n pre) :
    (Spec.attachAll (Spec.delChildren s n).f n pre).1.n = s.n := by
  rw [(Spec.attachAll_delChildren L).1]; rfl

theorem Spec.setChildren_eq_childrenAssigned (fl : Flavor) {s : Forest} {n : Nat} {xs : List Nat}
    (L : Spec.Legal s n xs) :
    (Spec.setChildren fl s n (some (xs.map Arg.node))).f = Spec.childrenAssigned s n xs := by
  rw [Spec.setChildren_ok fl s n xs L.nodup L.ok]
  exact (Spec.attachAll_delChildren L).1

theorem Spec.setChildren_effect (fl : Flavor) (s : Forest) (h : Inv s) (n : Nat) (xs : List Nat)
    (hn : n < s.n) (hnd : xs.Nodup) (hlt : ∀ x ∈ xs, x < s.n)
    (hok : ∀ x ∈ xs, x ≠ n ∧ Spec.isAnc s x n = false) :
    let r := Spec.setChildren fl s n (some (xs.map Arg.node))
    r.res = .ok () ∧ r.f.children n = xs ∧
    (∀ y, r.f.parent y =
      if xs.contains y then some n else if s.parent y = some n then none else s.parent y) ∧
    (∀ q, q ≠ n → r.f.children q = (s.children q).filter (fun c => !xs.contains c)) := by
  have e := Spec.setChildren_eq_childrenAssigned fl ⟨h, hn, hnd, hlt, hok⟩
  exact ⟨by rw [Spec.setChildren_ok fl s n xs hnd hok], e ▸ if_pos rfl, fun y => e ▸ rfl,
    fun q hq => e ▸ if_neg hq⟩

/-- the children of a node pass the argument check (the restore cannot be refused) -/
theorem checkChildren_old (fl : Flavor) {s : Forest} (h : Inv s) (n : Nat) :
    checkChildren fl [] ((s.children n).map Arg.node) = .ok () :=
  checkChildren_nodes fl _ [] (h.nodup n) (fun _ _ hm => by simp at hm)

end Anytree
