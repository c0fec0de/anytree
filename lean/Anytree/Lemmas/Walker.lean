import Anytree.Spec.Walker
import Anytree.Lemmas.Addr
/-! Root paths are prefix chains; the chain `below c a` from a prefix down to an address; the filter of
`__calc_common` on two prefix chains is the chain of the longest common prefix (C15). -/
namespace Anytree
namespace WalkerLemmas
open Tree Walker Spec

attribute [local simp] length_prefixes

theorem length_below (c a : Addr) : (below c a).length = a.length - c.length := by
  simp [below]

theorem below_getElem (c a : Addr) (k : Nat) (h : k < (below c a).length) :
    (below c a)[k] = a.take (c.length + 1 + k) := by
  simp only [below, List.getElem_drop]
  rw [prefixes_getElem]

theorem below_append (k r : Addr) : below k (k ++ r) = ((prefixes r).drop 1).map (k ++ ·) := by
  unfold below
  rw [prefixes_append, List.drop_append_of_le_length (by simp)]
  simp

theorem below_self (a : Addr) : below a a = [] := by
  apply List.eq_nil_of_length_eq_zero
  simp [length_below]

theorem mem_below {c a p : Addr} (h : p ∈ below c a) :
    ∃ k, c.length < k ∧ k ≤ a.length ∧ p = a.take k := by
  obtain ⟨k, hk, rfl⟩ := List.getElem_of_mem h
  rw [length_below] at hk
  exact ⟨c.length + 1 + k, Nat.lt_add_right k (Nat.lt_succ_self _), by omega, below_getElem c a k _⟩

/-- consecutive nodes of `below c a` are parent and child (the two indices are related by an
equation, so that the lemma applies to the reversed list as it stands) -/
theorem below_step (c a : Addr) (j k : Nat) (hj : j < (below c a).length) (e : j = k + 1) :
    ((below c a)[j]).dropLast = (below c a)[k]'(by omega) := by
  subst e
  rw [length_below] at hj
  rw [below_getElem, below_getElem]
  exact dropLast_take_succ a (c.length + 1 + k) (Nat.add_lt_of_lt_sub' (Nat.lt_sub_of_add_lt hj :))

theorem below_eq_nil_iff {c a : Addr} (hc : c <+: a) : below c a = [] ↔ a = c := by
  constructor
  · intro h
    have hl := length_below c a
    rw [h] at hl
    have := hc.length_le
    have hc' := List.prefix_iff_eq_take.1 hc
    rw [hc', Nat.le_antisymm this (Nat.le_of_sub_eq_zero hl.symm)]
    simp
  · rintro rfl; exact below_self a

theorem below_head? {c a : Addr} (hc : c <+: a) (h : below c a ≠ []) :
    (below c a).head?.map List.dropLast = some c := by
  have hlt : c.length + 1 < (prefixes a).length := by
    rw [← Nat.not_le]; exact fun hle => h (List.drop_eq_nil_iff.mpr hle)
  rw [below, List.head?_drop, List.getElem?_eq_getElem hlt, prefixes_getElem, Option.map_some,
    dropLast_take_succ a c.length (by simpa using hlt)]
  exact congrArg some (List.prefix_iff_eq_take.1 hc).symm

theorem below_getLast? {c a : Addr} (h : below c a ≠ []) : (below c a).getLast? = some a := by
  rw [below, List.getLast?_drop, if_neg fun hle => h (List.drop_eq_nil_iff.mpr hle),
    getLast?_prefixes]

theorem cons_below {c a : Addr} (hc : c <+: a) : c :: below c a = (prefixes a).drop c.length := by
  have hlt : c.length < (prefixes a).length := by
    rw [length_prefixes]; exact Nat.lt_succ_of_le hc.length_le
  rw [List.drop_eq_getElem_cons hlt, prefixes_getElem, ← List.prefix_iff_eq_take.1 hc]; rfl

/-- the filter of `__calc_common`, on two root paths as address chains: the pairs agree exactly
along the longest common prefix -/
theorem filter_zip_prefixes : ∀ (a b : Addr),
    (((prefixes a).zip (prefixes b)).filter (fun p => decide (p.1 = p.2))).map Prod.fst
      = prefixes (lcp2 a b) := by
  intro a
  induction a with
  | nil => intro b; cases b <;> rfl
  | cons i is ih =>
    intro b
    cases b with
    | nil => simp [prefixes, lcp2]
    | cons j js =>
      rw [prefixes, prefixes, List.zip_cons_cons, List.zip_map, List.filter_cons_of_pos (by simp),
        List.map_cons, List.filter_map, List.map_map, lcp2]
      by_cases h : i = j
      · -- the same first index: the remaining pairs are compared as before
        subst h
        have hp : ((fun p : Addr × Addr => decide (p.1 = p.2)) ∘ Prod.map (i :: ·) (i :: ·)) =
            fun p => decide (p.1 = p.2) := funext fun p => by simp
        rw [if_pos rfl, prefixes, ← ih js, hp, List.map_map]; rfl
      · rw [if_neg h, prefixes, List.filter_eq_nil_iff.mpr fun p _ => by simp [h]]; rfl

theorem pathOf_eq (x : WNode) : pathOf x = (prefixes x.2).map (fun p => (x.1, p)) := by
  simp [pathOf, Nav.path_eq_prefixes]

theorem rootOf_eq (x : WNode) : rootOf x = (x.1, []) := by
  simp [rootOf, Nav.root_eq_nil]

theorem calcCommon_prefixes (t : Nat) (a b : Addr) :
    calcCommon ((prefixes a).map (fun p => (t, p))) ((prefixes b).map (fun p => (t, p)))
      = (prefixes (lcp2 a b)).map (fun p => (t, p)) := by
  rw [← filter_zip_prefixes a b]
  simp only [calcCommon, List.zip_map, List.filter_map, List.map_map]
  have : ((fun p : WNode × WNode => decide (p.1 = p.2)) ∘ Prod.map (fun p => (t, p)) fun p => (t, p))
      = (fun p : Addr × Addr => decide (p.1 = p.2)) := by
    funext p; simp
  rw [this]
  rfl

end WalkerLemmas
end Anytree
