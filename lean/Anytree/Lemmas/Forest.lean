import Anytree.Spec.Forest
/-!
Parent chains (`up`) under the two raw link updates, which both preserve `Inv` (`inv_relink`); how `⨾`
and `tryCatch` of the exception-carrying state monad `M` run (`M.seq_*`, `forM'_append`); and a small
Hoare logic for `M`: the state survives an exception, so every rule has a normal and an exceptional
postcondition.
-/
namespace Anytree

theorem nodup_snoc {β : Type} {l : List β} {x : β} (hl : l.Nodup) (hx : x ∉ l) : (l ++ [x]).Nodup :=
  List.nodup_append.mpr ⟨hl, List.pairwise_singleton _ x, fun _ ha _ hb e =>
    hx (List.mem_singleton.mp hb ▸ e ▸ ha)⟩

namespace Forest

theorem ext {s t : Forest} (hn : s.n = t.n) (hp : s.parent = t.parent)
    (hc : s.children = t.children) : s = t := by
  cases s; cases t; simp only at hn hp hc; subst hn; subst hp; subst hc; rfl

theorem up_succ_of_parent {s : Forest} {c p : Nat} (hp : s.parent c = some p) (k : Nat) :
    s.up (k + 1) c = s.up k p := by rw [up, hp]

theorem up_succ_root {s : Forest} {r : Nat} (hr : s.parent r = none) (k : Nat) :
    s.up (k + 1) r = none := by rw [up, hr]

theorem up_add_bind (s : Forest) (a b y : Nat) : s.up (a + b) y = (s.up a y).bind (s.up b) := by
  fun_induction up s a y with
  | case1 y => rw [Nat.zero_add]; rfl
  | case2 a y hp => rw [Nat.succ_add, up_succ_root hp]; rfl
  | case3 a y q hp ih => rw [Nat.succ_add, up_succ_of_parent hp]; exact ih

theorem up_add {s : Forest} (a b y z : Nat) (h : s.up a y = some z) : s.up (a + b) y = s.up b z := by
  rw [up_add_bind, h]; rfl

theorem up_add_none {s : Forest} {k x} (h : s.up k x = none) (j : Nat) : s.up (k + j) x = none := by
  rw [up_add_bind, h]; rfl

@[simp] theorem detachRaw_n (s : Forest) (n p : Nat) : (s.detachRaw n p).n = s.n := rfl
@[simp] theorem attachRaw_n (s : Forest) (n p : Nat) : (s.attachRaw n p).n = s.n := rfl

@[simp] theorem detachRaw_parent (s : Forest) (n p x : Nat) :
    (s.detachRaw n p).parent x = if x = n then none else s.parent x := rfl
@[simp] theorem detachRaw_children (s : Forest) (n p x : Nat) :
    (s.detachRaw n p).children x = if x = p then (s.children p).filter (· != n) else s.children x := rfl
@[simp] theorem attachRaw_parent (s : Forest) (n p x : Nat) :
    (s.attachRaw n p).parent x = if x = n then some p else s.parent x := rfl
@[simp] theorem attachRaw_children (s : Forest) (n p x : Nat) :
    (s.attachRaw n p).children x = if x = p then s.children p ++ [n] else s.children x := rfl

theorem up_detachRaw_some {s : Forest} {n p : Nat} :
    ∀ k x y, (s.detachRaw n p).up k x = some y → s.up k x = some y := by
  intro k x
  fun_induction up s k x with
  | case1 x => exact fun _ h => h
  | case2 k x hp =>
    intro y h
    rwa [up_succ_root (by rw [detachRaw_parent, hp, ite_self])] at h
  | case3 k x q hp ih =>
    intro y h
    by_cases hx : x = n
    · rw [up_succ_root (by rw [detachRaw_parent, if_pos hx])] at h; cases h
    · rw [up_succ_of_parent (by rw [detachRaw_parent, if_neg hx, hp])] at h; exact ih y h

theorem term_detachRaw {s : Forest} (h : ∀ x, ∃ k, s.up k x = none) (n p : Nat) :
    ∀ x, ∃ k, (s.detachRaw n p).up k x = none := fun x =>
  (h x).imp fun k hk => by
    cases hd : (s.detachRaw n p).up k x with
    | none => rfl
    | some y => rw [up_detachRaw_some k x y hd] at hk; cases hk

/-- two forests whose parent links differ only at nodes in `A` have the same chain from `y`, as long as the
chain of `y` in the first meets no node of `A` -/
theorem up_congr_avoid {s t : Forest} {A : Nat → Prop} (hp : ∀ y, ¬A y → t.parent y = s.parent y) :
    ∀ k y, (∀ j z, s.up j y = some z → ¬A z) → t.up k y = s.up k y := by
  intro k y
  fun_induction up s k y with
  | case1 y => intro _; rfl
  | case2 k y hq => intro hy; exact up_succ_root ((hp y (hy 0 y rfl)).trans hq) k
  | case3 k y q hq ih =>
    intro hy
    rw [up_succ_of_parent ((hp y (hy 0 y rfl)).trans hq)]
    exact ih fun j z hz => hy (j + 1) z ((up_succ_of_parent hq j).trans hz)

theorem up_attachRaw_avoid {s : Forest} {n p : Nat} :
    ∀ k y, (∀ j, s.up j y ≠ some n) → (s.attachRaw n p).up k y = s.up k y := fun k y hy =>
  up_congr_avoid (A := (· = n)) (fun _ h => if_neg h) k y fun j _ hz e => hy j (e ▸ hz)

theorem term_attachRaw {s : Forest} (h : ∀ x, ∃ k, s.up k x = none) (n p : Nat)
    (hloop : ∀ j, s.up j p ≠ some n) :
    ∀ x, ∃ k, (s.attachRaw n p).up k x = none := by
  intro x
  obtain ⟨kp, hkp⟩ := h p
  obtain ⟨k, hk⟩ := h x
  induction k generalizing x with
  | zero => simp [up] at hk
  | succ k ih =>
    by_cases hx : x = n
    · refine ⟨kp+1, ?_⟩
      subst hx
      simp only [up, attachRaw_parent, if_true]
      rw [up_attachRaw_avoid kp p hloop]; exact hkp
    · simp only [up] at hk
      cases hp : s.parent x with
      | none => exact ⟨1, by simp [up, hx, hp]⟩
      | some q =>
        simp [hp] at hk
        obtain ⟨k', hk'⟩ := ih q hk
        exact ⟨k'+1, by simp [up, hx, hp]; exact hk'⟩

end Forest

theorem Inv.lt_of_parent {s : Forest} (h : Inv s) {c p : Nat} (hp : s.parent c = some p) :
    c < s.n ∧ p < s.n := by
  constructor
  · apply Decidable.byContradiction
    intro hc
    have := (h.supp c (Nat.le_of_not_lt hc)).1
    simp [hp] at this
  · apply Decidable.byContradiction
    intro hc
    have := (h.supp p (Nat.le_of_not_lt hc)).2
    have hm := (h.bidir c p).1 hp
    simp [this] at hm

theorem Inv.child_lt {s : Forest} (h : Inv s) {x n : Nat} (hx : x ∈ s.children n) : x < s.n :=
  (h.lt_of_parent ((h.bidir x n).2 hx)).1

theorem Inv.not_mem_of_root {s : Forest} (h : Inv s) {n : Nat} (hr : s.parent n = none) (p : Nat) :
    n ∉ s.children p :=
  fun hm => nomatch ((h.bidir n p).2 hm).symm.trans hr

/-- both raw updates replace the children list of `p` and the parent of `n` -/
theorem inv_relink {s : Forest} (h : Inv s) {n p : Nat} {v : Option Nat} {l : List Nat}
    (hn : n < s.n) (hp : p < s.n) (hl : l.Nodup)
    (hmem : ∀ c, c ≠ n → (c ∈ l ↔ c ∈ s.children p))
    (hnp : n ∈ l ↔ v = some p) (hnq : ∀ q, q ≠ p → (n ∈ s.children q ↔ v = some q))
    (hterm : ∀ x, ∃ k, ((s.setC p l).setP n v).up k x = none) : Inv ((s.setC p l).setP n v) := by
  refine ⟨fun c q => ?_, fun q => ?_, hterm, fun x hx => ?_⟩
  · show (if c = n then v else s.parent c) = some q ↔ c ∈ (if q = p then l else s.children q)
    by_cases hc : c = n <;> by_cases hq : q = p
    · rw [if_pos hc, if_pos hq, hc, hq]; exact hnp.symm
    · rw [if_pos hc, if_neg hq, hc]; exact (hnq q hq).symm
    · rw [if_neg hc, if_pos hq, hq, hmem c hc]; exact h.bidir c p
    · rw [if_neg hc, if_neg hq]; exact h.bidir c q
  · show (if q = p then l else s.children q).Nodup
    split
    · exact hl
    · exact h.nodup q
  · show (if x = n then v else s.parent x) = none ∧ (if x = p then l else s.children x) = []
    rw [if_neg (Nat.ne_of_gt (Nat.lt_of_lt_of_le hn hx)), if_neg (Nat.ne_of_gt (Nat.lt_of_lt_of_le hp hx))]
    exact h.supp x hx

theorem inv_detachRaw {s : Forest} (h : Inv s) {n p : Nat} (hp : s.parent n = some p) :
    Inv (s.detachRaw n p) := by
  have hne : ∀ q, q ≠ p → n ∉ s.children q := fun q hq hm =>
    hq (Option.some.inj (((h.bidir n q).2 hm).symm.trans hp))
  refine inv_relink h (h.lt_of_parent hp).1 (h.lt_of_parent hp).2
    ((h.nodup p).sublist List.filter_sublist) (fun c hc => ?_) ?_ (fun q hq => ?_)
    (Forest.term_detachRaw h.term n p)
  · rw [List.mem_filter, bne_iff_ne]; exact and_iff_left hc
  · rw [List.mem_filter, bne_self_eq_false]; exact ⟨fun h => (nomatch h.2), fun h => (nomatch h)⟩
  · exact ⟨fun hm => absurd hm (hne q hq), fun h => (nomatch h)⟩

theorem inv_attachRaw {s : Forest} (h : Inv s) {n p : Nat} (hroot : s.parent n = none)
    (hloop : ∀ j, s.up j p ≠ some n) (hn : n < s.n) (hpn : p < s.n) :
    Inv (s.attachRaw n p) := by
  have hne := h.not_mem_of_root hroot
  refine inv_relink h hn hpn ?_ (fun c hc => ?_) ?_ (fun q hq => ?_) (Forest.term_attachRaw h.term n p hloop)
  · exact nodup_snoc (h.nodup p) (hne p)
  · rw [List.mem_append, List.mem_singleton]; exact or_iff_left hc
  · exact ⟨fun _ => rfl, fun _ => List.mem_append_right _ (List.mem_singleton_self n)⟩
  · exact ⟨fun hm => absurd hm (hne q), fun e => absurd (Option.some.inj e).symm hq⟩

theorem M.seq_ok {a b : M} {w w' : World} (h : a w = (.ok (), w')) : (a ⨾ b) w = b w' := by
  simp [M.seq, h]

theorem M.seq_err {a b : M} {w w' : World} {e : Err} (h : a w = (.error e, w')) :
    (a ⨾ b) w = (.error e, w') := by
  simp [M.seq, h]

theorem M.seq_assoc (a b d : M) : (a ⨾ b) ⨾ d = a ⨾ (b ⨾ d) := by
  funext w
  simp only [M.seq]
  cases a w with
  | mk r w' => cases r <;> rfl

theorem forM'_append (body : Nat → M) (xs ys : List Nat) :
    forM' (xs ++ ys) body = forM' xs body ⨾ forM' ys body := by
  induction xs with
  | nil => rfl
  | cons x xs ih => rw [List.cons_append, forM', forM', ih, M.seq_assoc]

theorem M.seq_congr {a a' b b' : M} {w : World} (ha : a w = a' w)
    (hb : ∀ w', a' w = (.ok (), w') → b w' = b' w') : (a ⨾ b) w = (a' ⨾ b') w := by
  simp only [M.seq, ha]
  cases hr : a' w with
  | mk r w' => cases r with
    | error e => rfl
    | ok u => exact hb w' hr

theorem M.tryCatch_congr {a a' : M} {h h' : Err → M} {w : World} (ha : a w = a' w)
    (hh : ∀ e, h e = h' e) : M.tryCatch a h w = M.tryCatch a' h' w := by
  simp only [M.tryCatch, ha, hh]

/-- `{P} a {Q | E}`: from a `P`-state, `a` ends in a `Q`-state if it returns, and in an `E e`-state
if it raises `e` -/
def Triple (P : World → Prop) (a : M) (Q : World → Prop) (E : Err → World → Prop) : Prop :=
  ∀ w, P w → match a w with
    | (.ok (), w') => Q w'
    | (.error e, w') => E e w'

namespace Triple
variable {P P' Q Q' R : World → Prop} {E E' R' : Err → World → Prop} {a b : M}

theorem ok : Triple P M.ok P E := by intro w h; exact h
theorem throw (e : Err) (h : ∀ w, P w → E e w) : Triple P (M.throw e) Q E := by
  intro w hw; exact h w hw

theorem seq (ha : Triple P a R E) (hb : Triple R b Q E) : Triple P (a ⨾ b) Q E := by
  intro w h
  have := ha w h
  unfold M.seq
  cases hr : a w with
  | mk r w' =>
    cases r with
    | ok u => cases u; rw [hr] at this; exact hb w' this
    | error e => rw [hr] at this; exact this

theorem tryCatch {h : Err → M} (ha : Triple P a Q R') (hh : ∀ e, Triple (R' e) (h e) Q E) :
    Triple P (M.tryCatch a h) Q E := by
  intro w hw
  have := ha w hw
  unfold M.tryCatch
  cases hr : a w with
  | mk r w' =>
    cases r with
    | ok u => cases u; rw [hr] at this; exact this
    | error e => rw [hr] at this; exact hh e w' this

theorem weaken (ha : Triple P a Q E) (hP : ∀ w, P' w → P w) (hQ : ∀ w, Q w → Q' w)
    (hE : ∀ e w, E e w → E' e w) : Triple P' a Q' E' := by
  intro w hw
  have := ha w (hP w hw)
  cases hr : a w with
  | mk r w' =>
    cases r with
    | ok u => cases u; rw [hr] at this; exact hQ _ this
    | error e => rw [hr] at this; exact hE _ _ this

theorem forM' {I : World → Prop} {body : Nat → M} (xs : List Nat)
    (hb : ∀ x ∈ xs, Triple I (body x) I E) : Triple I (forM' xs body) I E := by
  induction xs with
  | nil => exact ok
  | cons x xs ih =>
    exact seq (hb x (by simp)) (ih (fun y hy => hb y (by simp [hy])))

theorem run (ha : Triple P a Q E) {w : World} (hw : P w) :
    match a w with
    | (.ok (), w') => Q w'
    | (.error e, w') => E e w' := ha w hw

theorem elim (ha : Triple P a Q E) {w : World} (hw : P w) {C : Except Err Unit × World → Prop}
    (hQ : ∀ w', Q w' → C (.ok (), w')) (hE : ∀ e w', E e w' → C (.error e, w')) : C (a w) := by
  have := ha w hw
  cases hr : a w with
  | mk r w' =>
    rw [hr] at this
    cases r with
    | ok u => cases u; exact hQ _ this
    | error e => exact hE _ _ this

end Triple

theorem Triple.pointwise {P Q : World → Prop} {E : Err → World → Prop} {a : M}
    (h : ∀ w, P w → Triple (· = w) a Q E) : Triple P a Q E := fun w hw => h w hw w rfl

/-- predicates that only look at the forest -/
def onF (G : Forest → Prop) : World → Prop := fun w => G w.f

/-- for a step that does not touch the forest (a hook, an assertion) -/
theorem Triple.frame {G : Forest → Prop} {g : M} {E : Err → World → Prop}
    (hg : ∀ w, (g w).2.f = w.f) (hE : ∀ w e, (g w).1 = .error e → G w.f → E e (g w).2) :
    Triple (onF G) g (onF G) E := by
  intro w hw
  have h1 := hg w
  have h2 := hE w
  cases hr : g w with
  | mk r w' =>
    rw [hr] at h1 h2
    cases r with
    | ok u => cases u; simp only [onF] at hw ⊢; simp only at h1; rw [h1]; exact hw
    | error e => exact h2 e rfl hw

theorem Triple.modify {G G' : Forest → Prop} {u : Forest → Forest} {E : Err → World → Prop}
    (h : ∀ f, G f → G' (u f)) : Triple (onF G) (M.modify u) (onF G') E := by
  intro w hw; exact h _ hw

theorem hook_f (c : Cfg) (k : HookKind) (n : Nat) (a : List Nat) (w : World) :
    (hook c k n a w).2.f = w.f := by
  unfold hook; simp only; split <;> rfl

theorem assertM_f (c : Cfg) (cond : Forest → Bool) (w : World) : (assertM c cond w).2.f = w.f := by
  unfold assertM; split <;> rfl

end Anytree
