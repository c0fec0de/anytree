import Anytree.Lemmas.Glob
/-! Strict `glob` agrees with `get` on wildcard-free paths: every result here has `relax = false`, and
`lift` carries the error of `get`'s walk over.  `cmp_symm`, `cmp_trans` and `matchPure_eq_cmp` are declared
into `Props.C08b`, the name they are audited under; that a literal component selects exactly the child `get`
steps to (`matching_literal_of_getChild`, `…_none`) is in `Props/C08b`. -/
namespace Anytree
namespace Props.C08b
open Str Resolver

theorem cmp_symm (ic : Bool) (s t : String) (h : cmp ic s t = true) : cmp ic t s = true := by
  rw [GlobL.cmp_iff_norm] at h ⊢; exact h.symm

theorem cmp_trans (ic : Bool) (s t u : String) (h1 : cmp ic s t = true) (h2 : cmp ic t u = true) :
    cmp ic s u = true := by
  rw [GlobL.cmp_iff_norm] at h1 h2 ⊢; exact h1.trans h2

/-- on a wildcard-free pattern `__match` (regular expression) and `__cmp` (string comparison) are
the same test — over characters on which `str.upper()` and `re.IGNORECASE` agree -/
theorem matchPure_eq_cmp (ic : Bool) (name pat : String) (hw : isWildcard pat = false)
    {P : Char → Prop} (hP : ic = true → CaseFold.CaseRegular P)
    (hn : ∀ x ∈ name.toList, P x) (hp : ∀ x ∈ pat.toList, P x) :
    matchPure ic name pat = cmp ic name pat := by
  rw [Bool.eq_iff_iff, GlobL.matchPure_literal_iff ic name pat hw, GlobL.normRe_eq_iff_norm ic hP _ _ hn hp,
    GlobL.cmp_iff_norm]

end Props.C08b

namespace GlobL
open Tree Str Resolver Spec
variable {α : Type}

/-- under sibling-uniqueness the child `__get` finds is the only child a literal pattern selects -/
theorem filter_cmp_of_find (c : Ctx α) (hsu : SiblingUnique c) (a : Addr) (name : String) (ch : Addr)
    (hf : (c.children a).find? (fun x => cmp c.ignorecase (c.name x) name) = some ch) :
    (c.children a).filter (fun x => cmp c.ignorecase (c.name x) name) = [ch] := by
  have hmem : ch ∈ c.children a := List.mem_of_find?_eq_some hf
  have hch := List.find?_some hf
  rcases nodup_all_eq (List.filter_sublist.nodup (ResolverLemmas.children_nodup c a)) fun x hx =>
    hsu a x ch (List.mem_filter.mp hx).1 hmem
      (Props.C08b.cmp_trans _ _ _ _ (List.mem_filter.mp hx).2 (Props.C08b.cmp_symm _ _ _ hch)) with h | h
  · exact absurd (List.mem_filter.mpr ⟨hmem, hch⟩) (h ▸ List.not_mem_nil)
  · exact h

theorem matching_literal (c : Ctx α) (a : Addr) (name : String) (hw : isWildcard name = false)
    (hca : CaseAgree c (· ∈ name.toList)) :
    matching c a name = (c.children a).filter (fun ch => cmp c.ignorecase (c.name ch) name) :=
  congrArg (List.filter · _) <| funext fun ch => Props.C08b.matchPure_eq_cmp _ _ _ hw hca
    (fun x hx => Or.inr ⟨ch, hx⟩) (fun x hx => Or.inl hx)

/-- what strict `glob` must give where `get`'s walk gives `r`: the one-element list of the node, or the
same error -/
def lift (r : Except RErr Addr) : Except RErr (List Addr) :=
  match r with
  | .ok b => .ok [b]
  | .error e => .error e

theorem globP_literal (c : Ctx α) (hr : c.relax = false) (hsu : SiblingUnique c)
    {P : Char → Prop} (hca : CaseAgree c P)
    (parts : List String) (hp : ∀ p ∈ parts, isWildcard p = false)
    (hpP : ∀ p ∈ parts, ∀ x ∈ p.toList, P x) :
    ∀ a, globP false c parts a = lift (walkPath c parts a) := by
  induction parts with
  | nil => intro a; rfl
  | cons p rem ih =>
    have ih := ih (fun q h => hp q (List.mem_cons_of_mem _ h)) (fun q h => hpP q (List.mem_cons_of_mem _ h))
    have hw : isWildcard p = false := hp p (List.mem_cons_self ..)
    have hca' : CaseAgree c (· ∈ p.toList) := hca.mono (hpP p (List.mem_cons_self ..))
    intro a
    rw [walkPath, globP_cons, ResolverLemmas.stepS_cons]
    generalize hk : ResolverLemmas.comp p = k
    cases k with
    | up =>
      simp only [hr]; cases a
      · rfl
      · exact ih _
    | stay => exact ih a
    | deep => rw [ResolverLemmas.comp_deep hk] at hw; cases hw
    | named =>
      -- `__get`'s child is the one child the component selects
      simp only [hw, matching_literal c a p hw hca']
      cases hg : getChild c a p with
      | none =>
        have : (c.children a).filter (fun ch => cmp c.ignorecase (c.name ch) p) = [] :=
          List.filter_eq_nil_iff.mpr (List.find?_eq_none.mp hg)
        simp [this, hr, lift]
      | some ch =>
        rw [filter_cmp_of_find c hsu a p ch hg, collect, collect, ih ch]
        cases hwk : walkPath c rem ch <;> simp [lift, hwk]

theorem globTopP_literal (c : Ctx α) (hr : c.relax = false) (hsu : SiblingUnique c) (a : Addr)
    (path : String) (hca : CaseAgree c (· ∈ path.toList))
    (hp : ∀ p ∈ split c.sep path, isWildcard p = false) :
    globTopP false c a path = lift (getStrictS c a path) := by
  have hch : ∀ p ∈ split c.sep path, ∀ x ∈ p.toList, x ∈ path.toList :=
    fun p hpm x hx => split_chars c.sep path p hpm x hx
  unfold globTopP getStrictS
  simp only
  by_cases h1 : startsWith path c.sep = true
  · simp only [h1, if_true]
    rcases hd : (split c.sep path).drop 1 with _ | ⟨p0, rest⟩
    · rfl
    · have hmem : ∀ p ∈ p0 :: rest, p ∈ split c.sep path := by
        intro p hpm
        have : p ∈ (split c.sep path).drop 1 := by rw [hd]; exact hpm
        exact List.mem_of_mem_drop this
      have hsub : ∀ p ∈ p0 :: rest, isWildcard p = false := fun p hpm => hp p (hmem p hpm)
      simp only
      by_cases h2 : (p0 == "") = true
      · simp [h2, hr, lift]
      · simp only [h2, Bool.false_eq_true, ↓reduceIte]
        rw [Props.C08b.matchPure_eq_cmp _ _ _ (hsub p0 (List.mem_cons_self ..)) hca
          (fun x hx => Or.inr ⟨[], hx⟩)
          (fun x hx => Or.inl (hch p0 (hmem p0 (List.mem_cons_self ..)) x hx))]
        cases cmp c.ignorecase (c.name []) p0 with
        | false => simp [hr, lift]
        | true =>
          simp only [Bool.not_true, Bool.false_eq_true, if_false]
          exact globP_literal c hr hsu hca rest (fun p h => hsub p (List.mem_cons_of_mem _ h))
            (fun p h => hch p (hmem p (List.mem_cons_of_mem _ h))) []
  · simp only [h1, Bool.false_eq_true, ↓reduceIte]
    exact globP_literal c hr hsu hca _ hp hch a

end GlobL
end Anytree
