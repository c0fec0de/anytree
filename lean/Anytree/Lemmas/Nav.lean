import Anytree.Lemmas.Addr
import Anytree.Lemmas.Shape
/-! The mirror's leaf filter and `height` on the address tree; the children addresses of a node and a
node's index among them. -/
namespace Anytree
open Tree
variable {α : Type}

theorem Spec.nkids_cons (x : α) (kids : List (Tree α)) (i : Nat) (c : Tree α)
    (h : kids[i]? = some c) (p : Addr) : Spec.nkids (node x kids) (i :: p) = Spec.nkids c p := by
  simp only [Spec.nkids, sub, h]

namespace Tree

theorem length_addrTreeAuxL (cs : List (Tree α)) (p : Addr) (i : Nat) :
    (addrTreeAuxL p i cs).length = cs.length := by
  rw [addrTreeAuxL_eq, List.length_mapIdx]

theorem nkids_cons_mid (x : α) (pre : List (Tree α)) (c : Tree α) (cs : List (Tree α)) (b : Addr) :
    Spec.nkids (node x (pre ++ c :: cs)) (pre.length :: b) = Spec.nkids c b :=
  Spec.nkids_cons x _ _ c (by simp) b

theorem leaves_addrTreeAux (t : Tree α) : ∀ a : Addr,
    ((pre (decorate (addrTreeAux a t))).filter (fun n => n.kids.length == 0)).map label =
      ((addrs t).filter (fun b => Spec.nkids t b == 0)).map (a ++ ·) := by
  -- `nkids` is read in the whole node while the induction runs over its remaining children `cs`:
  -- the motive carries the children already passed (`pr`, as many as the next index `i`)
  induction t using Tree.rec
    (motive_2 := fun cs => ∀ (a : Addr) (i : Nat) (pr : List (Tree α)) (x : α), pr.length = i →
      ((preL (decorateL (addrTreeAuxL a i cs))).filter (fun n => n.kids.length == 0)).map label =
        ((addrsL i cs).filter (fun b => Spec.nkids (node x (pr ++ cs)) b == 0)).map (a ++ ·)) with
  | node x cs ih =>
    intro a
    have h := ih a 0 [] x rfl
    simp only [List.nil_append] at h
    simp only [addrTreeAux, decorate, pre, addrs, List.filter_cons, kids_node,
      length_addrTreeAuxL]
    have h0 : Spec.nkids (node x cs) [] = cs.length := by simp [Spec.nkids, sub]
    rw [h0]
    by_cases hc : (cs.length == 0) = true
    · simp only [hc, if_true, List.map_cons, label_node, List.append_nil, h]
    · simp only [hc]; exact h
  | nil => simp [addrTreeAuxL, decorateL, preL, addrsL]
  | cons c cs ihc ihcs =>
    rename_i a i pr x hi
    subst hi
    have h2 := ihcs a (pr.length + 1) (pr ++ [c]) x (by simp)
    simp only [List.append_assoc, List.singleton_append] at h2
    simp only [addrTreeAuxL, decorateL, preL, addrsL, List.filter_append, List.map_append, ihc, h2,
      List.filter_map, List.map_map, Function.comp_def, nkids_cons_mid]
    simp

theorem heightT_eq (t : Tree α) : Nav.heightT t = t.height := by
  induction t using Tree.rec
    (motive_2 := fun cs => heightL cs = if cs.isEmpty then 0 else Nav.maxHeight cs + 1) with
  | node x cs ih => simp only [Nav.heightT, height, ih]
  | nil => simp [heightL]
  | cons c cs ihc ihcs =>
    simp only [heightL, Nav.maxHeight, ihc, ihcs, List.isEmpty_cons, Bool.false_eq_true, if_false]
    cases cs with
    | nil => simp [Nav.maxHeight]
    | cons d ds =>
      simp only [List.isEmpty_cons, Bool.false_eq_true, if_false, Nat.add_max_add_right]

end Tree

theorem Nav.childAddrs_eq (r : Tree α) (b : Addr) :
    Nav.childAddrs r b = (List.range (Spec.nkids r b)).map (fun i => b ++ [i]) := by
  unfold Nav.childAddrs Spec.nkids
  cases sub r b <;> simp

theorem Nav.childAddrs_getElem? (r : Tree α) (b : Addr) (j : Nat) :
    (Nav.childAddrs r b)[j]? = if j < Spec.nkids r b then some (b ++ [j]) else none := by
  rw [Nav.childAddrs_eq]
  by_cases h : j < Spec.nkids r b <;> simp [h]

theorem Nav.nodup_childAddrs (r : Tree α) (b : Addr) : (Nav.childAddrs r b).Nodup := by
  rw [Nav.childAddrs_eq]
  exact List.Pairwise.map _ (fun x y hxy e => hxy (by simpa using e)) List.nodup_range

theorem Nav.idxOf_childAddrs (r : Tree α) (b : Addr) (i : Nat) (h : i < Spec.nkids r b) :
    (Nav.childAddrs r b).idxOf (b ++ [i]) = i := by
  -- the child addresses are pairwise distinct, so `index` finds each at its own place
  have hn := Nav.nodup_childAddrs r b
  rw [Nav.childAddrs_eq] at hn ⊢
  have := hn.idxOf_getElem i (by simpa using h)
  rwa [List.getElem_map, List.getElem_range] at this

theorem Spec.lt_nkids_of_valid (r : Tree α) (b : Addr) (i : Nat)
    (h : (sub r (b ++ [i])).isSome = true) : i < Spec.nkids r b := by
  rw [Tree.sub_concat] at h
  obtain ⟨c, hc⟩ := Option.isSome_iff_exists.mp h
  obtain ⟨t, ht, hi⟩ := Option.bind_eq_some_iff.mp hc
  rw [Spec.nkids, ht]; exact (List.getElem?_eq_some_iff.mp hi).1

end Anytree
