import Anytree.Model.Str
/-!
`str.split`: `stripPrefix` is the prefix test; the fuel of `splitAux` does not matter once it exceeds the
length, so `split` is `splitL` with three equations (empty string, separator ahead, no separator ahead).
-/
namespace Anytree
namespace Str

theorem toList_ne_nil {s : String} (h : s ≠ "") : s.toList ≠ [] := by
  intro h'; exact h (String.toList_eq_nil_iff.mp h')

theorem stripPrefix_append (sep r : List Char) : stripPrefix sep (sep ++ r) = some r := by
  induction sep with
  | nil => rfl
  | cons x xs ih => simp [stripPrefix, ih]

theorem stripPrefix_eq_some {sep s r : List Char} (h : stripPrefix sep s = some r) : s = sep ++ r := by
  induction sep generalizing s with
  | nil => simp [stripPrefix] at h; simp [h]
  | cons x xs ih =>
    cases s with
    | nil => simp [stripPrefix] at h
    | cons y ys =>
      simp only [stripPrefix] at h
      split at h
      · next hxy => subst hxy; simp [ih h]
      · cases h

theorem stripPrefix_eq_none_iff {sep s : List Char} : stripPrefix sep s = none ↔ ¬ sep <+: s := by
  constructor
  · rintro h ⟨r, hr⟩
    rw [← hr, stripPrefix_append] at h; cases h
  · intro h
    cases hs : stripPrefix sep s with
    | none => rfl
    | some r => exact absurd ⟨r, (stripPrefix_eq_some hs).symm⟩ h

theorem splitAux_nil (sep : List Char) (fuel : Nat) (acc : List Char) :
    splitAux sep fuel [] acc = [acc.reverse] := by
  cases fuel <;> simp [splitAux]

theorem splitAux_ne_nil (sep : List Char) (fuel : Nat) (s acc : List Char) :
    splitAux sep fuel s acc ≠ [] := by
  fun_induction splitAux sep fuel s acc with
  | case1 | case2 | case4 => exact List.cons_ne_nil _ _
  | case3 _ _ _ _ _ _ _ ih => exact ih
  | case5 _ _ _ _ _ ih => exact ih

theorem splitAux_chars (sep : List Char) (fuel : Nat) (s acc : List Char) :
    ∀ piece ∈ splitAux sep fuel s acc, ∀ x ∈ piece, x ∈ acc.reverse ++ s := by
  fun_induction splitAux sep fuel s acc with
  | case1 s acc => intro piece hp x hx; rw [List.mem_singleton.mp hp] at hx; exact List.mem_append_left _ hx
  | case2 fuel acc => intro piece hp x hx; rw [List.mem_singleton.mp hp] at hx; exact List.mem_append_left _ hx
  | case3 fuel c cs acc rest hs he ih => intro piece hp x hx; simpa using ih piece hp x hx
  | case4 fuel c cs acc rest hs he ih =>
    intro piece hp x hx
    rcases List.mem_cons.mp hp with rfl | hp
    · exact List.mem_append_left _ hx
    · rw [stripPrefix_eq_some hs]
      exact List.mem_append_right _ (List.mem_append_right _ (ih piece hp x hx))
  | case5 fuel c cs acc hs ih => intro piece hp x hx; simpa using ih piece hp x hx

/-- enough fuel is as good as any: every recursive call is on a shorter string -/
theorem splitAux_fuel (sep : List Char) : ∀ (f f' : Nat) (s acc : List Char),
    s.length < f → s.length < f' → splitAux sep f s acc = splitAux sep f' s acc := by
  intro f
  induction f with
  | zero => intro _ _ _ h; cases h
  | succ f ih =>
    intro f' s acc h h'
    cases s with
    | nil => rw [splitAux_nil, splitAux_nil]
    | cons c cs =>
      obtain ⟨f', rfl⟩ : ∃ g, f' = g + 1 := ⟨f' - 1, by cases f' with | zero => cases h' | succ _ => rfl⟩
      have hc : cs.length < f ∧ cs.length < f' := ⟨Nat.lt_of_succ_lt_succ h, Nat.lt_of_succ_lt_succ h'⟩
      rw [splitAux, splitAux]
      cases hs : stripPrefix sep (c :: cs) with
      | none => exact ih _ _ _ hc.1 hc.2
      | some rest =>
        simp only []
        split
        · exact ih _ _ _ hc.1 hc.2
        · next he =>
          -- a non-empty separator was stripped, so `rest` is shorter than `c :: cs`
          have hr : rest.length ≤ cs.length := by
            have := stripPrefix_eq_some hs
            cases sep with
            | nil => exact absurd rfl he
            | cons x xs =>
              have := congrArg List.length this
              simp only [List.length_cons, List.length_append] at this
              omega
          rw [ih f' rest [] (Nat.lt_of_le_of_lt hr hc.1) (Nat.lt_of_le_of_lt hr hc.2)]

def splitL (sep s acc : List Char) : List (List Char) := splitAux sep (s.length + 1) s acc

theorem splitL_nil (sep acc : List Char) : splitL sep [] acc = [acc.reverse] := splitAux_nil ..

theorem splitL_sep {sep : List Char} (hsep : sep ≠ []) (rest acc : List Char) :
    splitL sep (sep ++ rest) acc = acc.reverse :: splitL sep rest [] := by
  obtain ⟨s, ss, rfl⟩ := List.exists_cons_of_ne_nil hsep
  have hsp := stripPrefix_append (s :: ss) rest
  rw [splitL, List.cons_append] at *
  rw [splitAux, hsp]
  simp only [List.isEmpty_cons, Bool.false_eq_true, if_false]
  rw [splitL, splitAux_fuel _ _ (rest.length + 1) rest [] (by simp; omega) (Nat.lt_succ_self _)]

theorem splitL_cons {sep : List Char} {x : Char} {xs : List Char}
    (h : stripPrefix sep (x :: xs) = none) (acc : List Char) :
    splitL sep (x :: xs) acc = splitL sep xs (x :: acc) := by
  rw [splitL, List.length_cons, splitAux, h]; rfl

/-- scanning a piece inside which the separator never starts only accumulates it -/
theorem splitL_scan (sep : List Char) : ∀ (p rest acc : List Char),
    (∀ i, i < p.length → ¬ sep <+: p.drop i ++ rest) →
    splitL sep (p ++ rest) acc = splitL sep rest (p.reverse ++ acc) := by
  intro p
  induction p with
  | nil => intro _ _ _; rfl
  | cons x xs ih =>
    intro rest acc h
    have h0 : stripPrefix sep (x :: (xs ++ rest)) = none :=
      stripPrefix_eq_none_iff.mpr (h 0 (Nat.zero_lt_succ _))
    rw [List.cons_append, splitL_cons h0,
      ih rest _ fun i hi => h (i + 1) (Nat.succ_lt_succ hi), List.reverse_cons, List.append_assoc]
    rfl

theorem split_eq_splitL (sep s : String) :
    split sep s = (splitL sep.toList s.toList []).map String.ofList := by
  rw [split, splitL, String.length_toList]

/-- a path that starts with a non-empty separator splits into at least two pieces
(Python: `parts.pop(0)` leaves a non-empty list) -/
theorem split_drop_one_ne_nil (sep path : String) (hsep : sep ≠ "")
    (hs : startsWith path sep = true) : (split sep path).drop 1 ≠ [] := by
  obtain ⟨rest, hr⟩ := Option.isSome_iff_exists.mp hs
  rw [split_eq_splitL, stripPrefix_eq_some hr, splitL_sep (toList_ne_nil hsep), List.map_cons,
    List.drop_one, List.tail_cons]
  exact fun h => splitAux_ne_nil _ _ _ _ (List.map_eq_nil_iff.mp h)

theorem split_chars (sep s : String) : ∀ p ∈ split sep s, ∀ x ∈ p.toList, x ∈ s.toList := by
  intro p hp x hx
  obtain ⟨piece, hpiece, rfl⟩ := List.mem_map.mp hp
  rw [String.toList_ofList] at hx
  exact splitAux_chars sep.toList _ _ _ piece hpiece x hx

theorem split_wildcard_free (sep path : String) (hw : isWildcard path = false) :
    ∀ p ∈ split sep path, isWildcard p = false := by
  intro p hp
  unfold isWildcard at hw ⊢
  rw [List.any_eq_false] at hw ⊢
  exact fun x hx => hw x (split_chars sep path p hp x hx)

end Str
end Anytree
