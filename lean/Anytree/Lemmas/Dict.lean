import Anytree.Spec.Dict
import Anytree.Lemmas.Tree
/-!
The two round trips of C10 / C11, each one induction.  Tree → dictionary → tree: importing `Spec.plainT t`
gives `t` back for every class whose constructor keeps the attributes (`import_plain`).  Dictionary → tree
→ dictionary: `toTree d` is the tree that an AnyNode import builds from `d`, and its plain dictionary is
`d` without its empty `children` lists.
-/
namespace Anytree.Lemmas.Dict
open Tree Anytree.Dict Spec
variable {V : Type}

theorem dictSet_fresh (d : Attrs V) (k : String) (v : V) (h : k ∉ d.map Prod.fst) :
    dictSet d k v = d ++ [(k, v)] := by
  have : d.any (fun e => e.1 == k) = false :=
    List.any_eq_false.mpr fun e he hek => h (eq_of_beq hek ▸ List.mem_map_of_mem he)
  rw [dictSet, this]
  rfl

theorem foldl_dictSet_unique (l acc : Attrs V) (h : ((acc ++ l).map Prod.fst).Nodup) :
    l.foldl (fun d e => dictSet d e.1 e.2) acc = acc ++ l := by
  induction l generalizing acc with
  | nil => exact (List.append_nil acc).symm
  | cons e l ih =>
    rw [List.append_cons] at h ⊢
    have hfresh : e.1 ∉ acc.map Prod.fst := fun hmem => by
      rw [List.map_append, List.map_append, List.append_assoc, List.nodup_append] at h
      exact h.2.2 _ hmem _ List.mem_cons_self rfl
    rw [List.foldl_cons, dictSet_fresh _ _ _ hfresh, ih _ h]

theorem iterAttrValues_clean (a : Attrs V) (h : CleanAttrs a) : iterAttrValues a = a := by
  unfold iterAttrValues
  rw [List.filter_eq_self]
  intro e he
  have := (h.2 e he).2.2
  simpa using this

theorem plainL_eq_map (cs : List (Tree (Attrs V))) : plainL cs = cs.map plainT := by
  induction cs with
  | nil => simp [plainL]
  | cons c cs ih => simp [plainL, ih]

theorem plainT_node (a : Attrs V) (cs : List (Tree (Attrs V))) :
    plainT (node a cs) = .mk a (if cs.isEmpty then none else some (cs.map plainT)) := by
  cases cs with
  | nil => simp [plainT, plainL]
  | cons c cs => simp [plainT, plainL, plainL_eq_map]

theorem dictSetChildren_id (d : Attrs V) (h : ∀ e ∈ d, e.1 ≠ "children") :
    exportF.dictSetChildren d = d := by
  unfold exportF.dictSetChildren
  rw [List.filter_eq_self]
  intro e he
  simpa using h e he

theorem cleanL_mem {cs : List (Tree (Attrs V))} (h : CleanL cs) : ∀ c ∈ cs, CleanT c := by
  induction cs with
  | nil => intro c hc; cases hc
  | cons x xs ih =>
    intro c hc
    rw [CleanL] at h
    rcases List.mem_cons.mp hc with rfl | hc
    · exact h.1
    · exact ih h.2 c hc

theorem height_lt_heightL {α : Type} {cs : List (Tree α)} : ∀ c ∈ cs, height c + 1 ≤ heightL cs :=
  fun _ hc => Tree.height_lt_heightL hc

theorem ctorAttrs_anyNode (a : Attrs V) : ctorAttrs .anyNode a = some a := rfl

theorem importL_eq_some (cls : NodeCls) (ds : List (DData V)) (ts : List (Tree (Attrs V)))
    (h : ∀ p ∈ ds.zip ts, importT cls p.1 = some p.2) (hlen : ds.length = ts.length) :
    importL cls ds = some ts := by
  induction ds generalizing ts with
  | nil => cases ts with
    | nil => rfl
    | cons => cases hlen
  | cons d ds ih =>
    cases ts with
    | nil => cases hlen
    | cons t ts =>
      rw [importL, h (d, t) (by simp), ih ts (fun p hp => h p (by simp [hp])) (by simpa using hlen)]

theorem importL_plainL (cls : NodeCls) (cs : List (Tree (Attrs V)))
    (h : ∀ c ∈ cs, importT cls (plainT c) = some c) : importL cls (plainL cs) = some cs := by
  induction cs with
  | nil => rfl
  | cons c cs ih =>
    rw [plainL, importL, h c (List.mem_cons_self ..), ih fun d hd => h d (List.mem_cons_of_mem _ hd)]

/-- import of the plain dictionary of a tree, for any class whose constructor keeps every node's
attributes -/
theorem import_plain (cls : NodeCls) (t : Tree (Attrs V)) :
    (∀ a ∈ pre t, ctorAttrs cls a = some a) → importT cls (plainT t) = some t := by
  induction t using Tree.induction_on with
  | h a cs ih =>
    intro h
    rw [pre_eq_cons] at h
    have ha : ctorAttrs cls a = some a := h a (List.mem_cons_self ..)
    have hcs := importL_plainL cls cs fun c hc => ih c hc fun b hb =>
      h b (List.mem_cons_of_mem _ (List.mem_flatMap.mpr ⟨c, hc, hb⟩))
    cases cs with
    | nil => simp only [plainT, plainL, importT, ha]
    | cons c cs => rw [plainL] at hcs; simp only [plainT, plainL, importT, ha, hcs]

mutual
/-- the tree that importing the dictionary `d` as AnyNode builds (`import_anyNode_eq`): `DData → Tree`,
the way back from `Spec.plainT`; unrelated to `Forest.toTree` -/
def toTree : DData V → Tree (Attrs V)
  | .mk a none => node a []
  | .mk a (some cs) => node a (toTreeL cs)
def toTreeL : List (DData V) → List (Tree (Attrs V))
  | [] => []
  | d :: ds => toTree d :: toTreeL ds
end

mutual
theorem import_anyNode_eq : ∀ d : DData V, importT .anyNode d = some (toTree d)
  | .mk a none => by simp [importT, ctorAttrs, toTree]
  | .mk a (some cs) => by simp [importT, ctorAttrs, toTree, importL_anyNode_eq cs]
theorem importL_anyNode_eq : ∀ ds : List (DData V), importL .anyNode ds = some (toTreeL ds)
  | [] => by simp [importL, toTreeL]
  | d :: ds => by simp [importL, toTreeL, import_anyNode_eq d, importL_anyNode_eq ds]
end

mutual
theorem clean_toTree : ∀ d : DData V, CleanD d → CleanT (toTree d)
  | .mk a none => by intro h; rw [CleanD] at h; simp [toTree, CleanT, CleanL, h]
  | .mk a (some cs) => by
    intro h; rw [CleanD] at h; rw [toTree, CleanT]; exact ⟨h.1, clean_toTreeL cs h.2⟩
theorem clean_toTreeL : ∀ ds : List (DData V), CleanDL ds → CleanL (toTreeL ds)
  | [] => by intro _; simp [toTreeL, CleanL]
  | d :: ds => by
    intro h; rw [CleanDL] at h; rw [toTreeL, CleanL]; exact ⟨clean_toTree d h.1, clean_toTreeL ds h.2⟩
end

mutual
theorem plain_toTree : ∀ d : DData V, plainT (toTree d) = stripEmptyT d
  | .mk a none => by simp [toTree, plainT, plainL, stripEmptyT]
  | .mk a (some cs) => by rw [toTree, plainT, stripEmptyT, plainL_toTreeL cs]
theorem plainL_toTreeL : ∀ ds : List (DData V), plainL (toTreeL ds) = stripEmptyL ds
  | [] => by simp [toTreeL, plainL, stripEmptyL]
  | d :: ds => by rw [toTreeL, plainL, stripEmptyL, plain_toTree d, plainL_toTreeL ds]
end

theorem ctorAttrs_node_nameLast (a : Attrs V)
    (h : ∃ v init, a = init ++ [("name", v)] ∧ ∀ e ∈ init, e.1 ≠ "name") :
    ctorAttrs .node a = some a := by
  rcases h with ⟨v, init, rfl, hinit⟩
  have hb : ∀ e ∈ init, (e.1 == "name") = false := fun e he => beq_false_of_ne (hinit e he)
  have hfind : init.find? (fun e => e.1 == "name") = none :=
    List.find?_eq_none.mpr fun e he => by rw [hb e he]; exact Bool.false_ne_true
  have hfilter : init.filter (fun e => e.1 != "name") = init :=
    List.filter_eq_self.mpr fun e he => by rw [bne, hb e he]; rfl
  simp only [ctorAttrs, List.find?_append, hfind, Option.none_or, List.find?_cons_of_pos,
    beq_self_eq_true, List.filter_append, hfilter]
  have : [("name", v)].filter (fun e : String × V => e.1 != "name") = [] := rfl
  rw [this, List.append_nil]

end Anytree.Lemmas.Dict
