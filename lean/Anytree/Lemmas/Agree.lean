import Anytree.Lemmas.Plan
/-!
Runs of the mirror's code under two configurations, with no assumption on the forest.  The
two-schedule theory — `Mono`, `Agr lo hi` (a call reads `φ i` only at invocation numbers it reaches,
so under schedules that agree on a window the runs agree on it), `setParent_quiet` — is stated for
its own sake: no property rests on it.  Its proof is one walk through the code along `Both`; the walk
carries two flavours and shows that the flavour is read for a non-node argument only, which with
equal schedules (`Both.eq`) is what C18 rests on.
-/
namespace Anytree

/-- the hook counter only grows.  `Agr` of a sequence needs it of both parts: of the first to stay at
or above `lo`, of the second to know that the counter in between is at most `hi` -/
def Mono (a : M) : Prop := ∀ w, w.cnt ≤ (a w).2.cnt

/-- `a` (under one schedule) and `a'` (under another) agree from every world whose counter is at
least `lo`, provided the run of `a'` does not take the counter beyond `hi` -/
def Agr (lo hi : Nat) (a a' : M) : Prop :=
  ∀ w, lo ≤ w.cnt → (a' w).2.cnt ≤ hi → a w = a' w

/-- `Agr` and `Mono` together, because sequencing `Agr` needs `Mono` -/
def Both (lo hi : Nat) (a a' : M) : Prop :=
  ∀ w, (lo ≤ w.cnt → (a' w).2.cnt ≤ hi → a w = a' w) ∧ w.cnt ≤ (a' w).2.cnt

namespace Both
variable {lo hi : Nat} {a a' b b' : M}

theorem agr (h : Both lo hi a a') : Agr lo hi a a' := fun w => (h w).1
theorem mono (h : Both lo hi a a') : Mono a' := fun w => (h w).2
theorem mk (h : Agr lo hi a a') (m : Mono a') : Both lo hi a a' := fun w => ⟨h w, m w⟩
theorem of_mono (m : Mono a) : Both lo hi a a := fun w => ⟨fun _ _ => rfl, m w⟩

theorem seq (ha : Both lo hi a a') (hb : Both lo hi b b') : Both lo hi (a ⨾ b) (a' ⨾ b') := by
  intro w
  obtain ⟨e1, m1⟩ := ha w
  unfold M.seq
  cases hr : a' w with
  | mk r w' =>
    rw [hr] at e1 m1
    cases r with
    | error e => exact ⟨fun hlo hhi => by rw [e1 hlo hhi], m1⟩
    | ok u =>
      obtain ⟨e2, m2⟩ := hb w'
      exact ⟨fun hlo hhi => by rw [e1 hlo (Nat.le_trans m2 hhi)]; exact e2 (Nat.le_trans hlo m1) hhi,
        Nat.le_trans m1 m2⟩

theorem tryCatch {h h' : Err → M} (ha : Both lo hi a a') (hh : ∀ e, Both lo hi (h e) (h' e)) :
    Both lo hi (M.tryCatch a h) (M.tryCatch a' h') := by
  intro w
  obtain ⟨e1, m1⟩ := ha w
  unfold M.tryCatch
  cases hr : a' w with
  | mk r w' =>
    rw [hr] at e1 m1
    cases r with
    | ok u => exact ⟨fun hlo hhi => by rw [e1 hlo hhi], m1⟩
    | error e =>
      obtain ⟨e2, m2⟩ := hh e w'
      exact ⟨fun hlo hhi => by rw [e1 hlo (Nat.le_trans m2 hhi)]; exact e2 (Nat.le_trans hlo m1) hhi,
        Nat.le_trans m1 m2⟩

theorem forM' (xs : List Nat) {body body' : Nat → M} (hb : ∀ x, Both lo hi (body x) (body' x)) :
    Both lo hi (forM' xs body) (forM' xs body') := by
  induction xs with
  | nil => exact of_mono fun _ => Nat.le_refl _
  | cons x xs ih => exact seq (hb x) ih

end Both

namespace Mono

theorem modify (g : Forest → Forest) : Mono (M.modify g) := fun _ => Nat.le_refl _
theorem throw (e : Err) : Mono (M.throw e) := fun _ => Nat.le_refl _

theorem assertM (c : Cfg) (cond : Forest → Bool) : Mono (assertM c cond) := by
  intro w; unfold Anytree.assertM; split <;> exact Nat.le_refl _

theorem checkLoop (fuel n : Nat) (v : Option Nat) : Mono (checkLoop fuel n v) := by
  intro w; unfold Anytree.checkLoop
  cases v with
  | none => exact Nat.le_refl _
  | some p =>
    simp only
    split
    · exact Nat.le_refl _
    · split <;> exact Nat.le_refl _

variable {a : M} in
theorem tryCatch {h : Err → M} (ha : Mono a) (hh : ∀ e, Mono (h e)) : Mono (M.tryCatch a h) :=
  (Both.tryCatch (lo := 0) (hi := 0) (.of_mono ha) fun e => .of_mono (hh e)).mono

end Mono

namespace Agr
variable {lo hi : Nat} {a a' : M}

theorem tryCatch {h h' : Err → M} (ha : Agr lo hi a a') (hh : ∀ e, Agr lo hi (h e) (h' e))
    (ma : Mono a') (mh : ∀ e, Mono (h' e)) : Agr lo hi (M.tryCatch a h) (M.tryCatch a' h') :=
  (Both.tryCatch (.mk ha ma) fun e => .mk (hh e) (mh e)).agr

end Agr

theorem checkChildren_nodes_flavor (fl fl' : Flavor) (xs : List Nat) : ∀ seen : List Nat,
    checkChildren fl seen (xs.map Arg.node) = checkChildren fl' seen (xs.map Arg.node) := by
  induction xs with
  | nil => exact fun _ => rfl
  | cons x xs ih => exact fun seen => by simp only [List.map_cons, checkChildren, ih]

section Walk
variable {fl fl' : Flavor} (asrt : Bool) {φ φ' : Faults} {lo hi : Nat}
  (hφ : ∀ i k m, lo ≤ i → i < hi → φ i k m = φ' i k m)
include hφ

namespace Both

/-- a hook reads the schedule at the counter it is invoked at, and moves the counter past it -/
theorem hook (k : HookKind) (n : Nat) (arg : List Nat) :
    Both lo hi (hook ⟨fl, asrt, φ⟩ k n arg) (hook ⟨fl', asrt, φ'⟩ k n arg) := by
  intro w
  have hc : (Anytree.hook ⟨fl', asrt, φ'⟩ k n arg w).2.cnt = w.cnt + 1 := by
    unfold Anytree.hook; simp only; split <;> rfl
  refine ⟨fun hlo hhi => ?_, hc ▸ Nat.le_succ _⟩
  unfold Anytree.hook
  simp only [hφ w.cnt k n hlo (by omega)]

set_option linter.unusedSectionVars false in
theorem assertM (cond : Forest → Bool) :
    Both lo hi (assertM ⟨fl, asrt, φ⟩ cond) (assertM ⟨fl', asrt, φ'⟩ cond) :=
  of_mono (Mono.assertM _ _)

theorem detach (n : Nat) (old : Option Nat) :
    Both lo hi (detach ⟨fl, asrt, φ⟩ n old) (detach ⟨fl', asrt, φ'⟩ n old) := by
  cases old with
  | none => exact of_mono fun _ => Nat.le_refl _
  | some p =>
    exact seq (seq (seq (hook asrt hφ _ _ _) (assertM asrt hφ _)) (of_mono (Mono.modify _)))
      (hook asrt hφ _ _ _)

theorem attach (n : Nat) (new : Option Nat) :
    Both lo hi (attach ⟨fl, asrt, φ⟩ n new) (attach ⟨fl', asrt, φ'⟩ n new) := by
  cases new with
  | none => exact of_mono fun _ => Nat.le_refl _
  | some p =>
    exact seq (seq (seq (hook asrt hφ _ _ _) (assertM asrt hφ _)) (of_mono (Mono.modify _)))
      (hook asrt hφ _ _ _)

/-- the flavour is read for a non-node argument only -/
theorem setParent (fuel n : Nat) (v : Option Arg) (hv : v = some .nonNode → fl = fl') :
    Both lo hi (setParent ⟨fl, asrt, φ⟩ fuel n v) (setParent ⟨fl', asrt, φ'⟩ fuel n v) := by
  intro w
  unfold Anytree.setParent
  match v with
  | some .nonNode => cases hv rfl; exact ⟨fun _ _ => rfl, by cases fl <;> exact Nat.le_refl _⟩
  | none =>
    simp only
    by_cases hold : w.f.parent n = none
    · rw [if_pos hold, if_pos hold]; exact ⟨fun _ _ => rfl, Nat.le_refl _⟩
    · rw [if_neg hold, if_neg hold]; exact detach asrt hφ n _ w
  | some (.node p) =>
    simp only
    by_cases hold : w.f.parent n = some p
    · rw [if_pos hold, if_pos hold]; exact ⟨fun _ _ => rfl, Nat.le_refl _⟩
    · rw [if_neg hold, if_neg hold]
      exact seq (seq (of_mono (Mono.checkLoop _ _ _)) (detach asrt hφ n _))
        (attach asrt hφ n _) w

theorem delChildren (fuel n : Nat) :
    Both lo hi (delChildren ⟨fl, asrt, φ⟩ fuel n) (delChildren ⟨fl', asrt, φ'⟩ fuel n) := fun w =>
  seq (seq (seq (hook asrt hφ _ _ _)
    (forM' _ fun x => setParent asrt hφ fuel x none fun h => nomatch h))
    (assertM asrt hφ _)) (hook asrt hφ _ _ _) w

theorem setChildrenNodes : ∀ (fuel n : Nat) (xs : List Nat),
    Both lo hi (setChildrenNodes ⟨fl, asrt, φ⟩ fuel n xs) (setChildrenNodes ⟨fl', asrt, φ'⟩ fuel n xs) := by
  intro fuel
  induction fuel with
  | zero => intro n xs; unfold Anytree.setChildrenNodes; exact of_mono (Mono.throw _)
  | succ fuel ih =>
    intro n xs w
    unfold Anytree.setChildrenNodes
    refine seq (delChildren asrt hφ fuel n) (tryCatch
      (seq (seq (seq (hook asrt hφ _ _ _)
        (forM' _ fun x => setParent asrt hφ fuel x (some (.node n)) fun h => nomatch h)) (hook asrt hφ _ _ _))
        (assertM asrt hφ _)) fun e => ?_) w
    cases e with
    | diverged => exact of_mono (Mono.throw _)
    | treeError | loopError | typeError | hook _ _ _ | assertion | unmodelled =>
      simp only [checkChildren_nodes_flavor fl fl' _ []]
      split
      · exact of_mono (Mono.throw _)
      · exact seq (ih n _) (of_mono (Mono.throw _))

end Both
end Walk

theorem Both.eq {a a' : M} (h : ∀ hi, Both 0 hi a a') : a = a' :=
  funext fun w => (h _ w).1 (Nat.zero_le _) (Nat.le_refl _)

section Agree
variable (fl : Flavor) (asrt : Bool) {φ φ' : Faults} {lo hi : Nat}
  (hφ : ∀ i k m, lo ≤ i → i < hi → φ i k m = φ' i k m)
include hφ

theorem Agr.assertM (cond : Forest → Bool) :
    Agr lo hi (assertM ⟨fl, asrt, φ⟩ cond) (assertM ⟨fl, asrt, φ'⟩ cond) :=
  (Both.assertM (fl := fl) (fl' := fl) asrt hφ cond).agr

theorem Agr.detach (n : Nat) (old : Option Nat) :
    Agr lo hi (detach ⟨fl, asrt, φ⟩ n old) (detach ⟨fl, asrt, φ'⟩ n old) :=
  (Both.detach (fl := fl) (fl' := fl) asrt hφ n old).agr

theorem Agr.attach (n : Nat) (new : Option Nat) :
    Agr lo hi (attach ⟨fl, asrt, φ⟩ n new) (attach ⟨fl, asrt, φ'⟩ n new) :=
  (Both.attach (fl := fl) (fl' := fl) asrt hφ n new).agr

theorem Agr.setParent (fuel n : Nat) (v : Option Arg) :
    Agr lo hi (setParent ⟨fl, asrt, φ⟩ fuel n v) (setParent ⟨fl, asrt, φ'⟩ fuel n v) :=
  (Both.setParent (fl := fl) (fl' := fl) asrt hφ fuel n v fun _ => rfl).agr

theorem Agr.delChildren (fuel n : Nat) :
    Agr lo hi (delChildren ⟨fl, asrt, φ⟩ fuel n) (delChildren ⟨fl, asrt, φ'⟩ fuel n) :=
  (Both.delChildren (fl := fl) (fl' := fl) asrt hφ fuel n).agr

theorem Agr.setChildrenNodes : ∀ (fuel n : Nat) (xs : List Nat),
    Agr lo hi (setChildrenNodes ⟨fl, asrt, φ⟩ fuel n xs) (setChildrenNodes ⟨fl, asrt, φ'⟩ fuel n xs) :=
  fun fuel n xs => (Both.setChildrenNodes (fl := fl) (fl' := fl) asrt hφ fuel n xs).agr

end Agree

/-! `Mono` is `Both` for one schedule -/
namespace Mono

theorem detach (c : Cfg) (n : Nat) (old : Option Nat) : Mono (detach c n old) :=
  (Both.detach (lo := 0) (hi := 0) (fl := c.fl) (fl' := c.fl) c.asrt (fun _ _ _ _ _ => rfl) n old).mono

theorem attach (c : Cfg) (n : Nat) (new : Option Nat) : Mono (attach c n new) :=
  (Both.attach (lo := 0) (hi := 0) (fl := c.fl) (fl' := c.fl) c.asrt (fun _ _ _ _ _ => rfl) n new).mono

theorem setParent (c : Cfg) (fuel n : Nat) (v : Option Arg) : Mono (setParent c fuel n v) :=
  (Both.setParent (lo := 0) (hi := 0) (fl := c.fl) (fl' := c.fl) c.asrt (fun _ _ _ _ _ => rfl) fuel n v fun _ => rfl).mono

theorem delChildren (c : Cfg) (fuel n : Nat) : Mono (delChildren c fuel n) :=
  (Both.delChildren (lo := 0) (hi := 0) (fl := c.fl) (fl' := c.fl) c.asrt (fun _ _ _ _ _ => rfl) fuel n).mono

theorem setChildrenNodes (c : Cfg) : ∀ (fuel n : Nat) (xs : List Nat),
    Mono (setChildrenNodes c fuel n xs) := fun fuel n xs =>
  (Both.setChildrenNodes (lo := 0) (hi := 0) (fl := c.fl) (fl' := c.fl) c.asrt (fun _ _ _ _ _ => rfl) fuel n xs).mono

end Mono

/-- the same configuration without faults -/
def Cfg.calm (c : Cfg) : Cfg := ⟨c.fl, c.asrt, noFaults⟩

theorem setParent_quiet {c : Cfg} {lo hi : Nat} (hq : Quiet c lo hi) (fuel n : Nat) (v : Option Arg)
    (w : World) (hlo : lo ≤ w.cnt) (hhi : (setParent c.calm fuel n v w).2.cnt ≤ hi) :
    setParent c fuel n v w = setParent c.calm fuel n v w :=
  Agr.setParent c.fl c.asrt hq fuel n v w hlo hhi

end Anytree
