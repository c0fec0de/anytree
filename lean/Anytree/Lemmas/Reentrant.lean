import Anytree.Model.ForestR
import Anytree.Lemmas.Quiet
/-!
The extended mirror (`Model/ForestR.lean`) with a hook that detaches another node, during a parent
assignment (C02r) and during the children deleter (C02s).  `Steps a G F`: from every world whose forest is
`G` the computation `a` returns and leaves the forest `F` (log and hook counter are ignored).  The
re-entrant call ends where the two calls made one after the other end because `Spec.detached` commutes
with itself, with `Spec.attached` of another node and with `Spec.detachAll`.
-/
namespace Anytree

/-- from every world whose forest is `G`, `a` returns and leaves the forest `F` -/
def Steps (a : M) (G F : Forest) : Prop :=
  ∀ w : World, w.f = G → ∃ w', a w = (.ok (), w') ∧ w'.f = F

theorem steps_ok (G : Forest) : Steps M.ok G G := fun w hw => ⟨w, rfl, hw⟩

theorem Steps.seq {a b : M} {G F H : Forest} (ha : Steps a G F) (hb : Steps b F H) :
    Steps (a ⨾ b) G H := by
  intro w hw
  obtain ⟨w1, e1, f1⟩ := ha w hw
  obtain ⟨w2, e2, f2⟩ := hb w1 f1
  exact ⟨w2, by rw [M.seq_ok e1, e2], f2⟩

theorem steps_modify (g : Forest → Forest) (G : Forest) : Steps (M.modify g) G (g G) := by
  intro w hw
  subst hw
  exact ⟨_, rfl, rfl⟩

theorem steps_ite_pos {P : Prop} [Decidable P] (hP : P) {a b : M} {G F : Forest}
    (ha : Steps a G F) : Steps (if P then a else b) G F := by
  rw [if_pos hP]; exact ha

theorem steps_ite_neg {P : Prop} [Decidable P] (hP : ¬ P) {a b : M} {G F : Forest}
    (hb : Steps b G F) : Steps (if P then a else b) G F := by
  rw [if_neg hP]; exact hb

theorem steps_hook {c : Cfg} (hφ : c.φ = noFaults) (k : HookKind) (n : Nat) (a : List Nat)
    (G : Forest) : Steps (hook c k n a) G G := by
  intro w hw
  have e : hook c k n a w = (.ok (), w.adv w.f [Spec.ev k n a w.f]) := by
    simp [hook, hφ, noFaults, World.adv, Spec.ev]
  exact ⟨_, e, hw⟩

theorem steps_assert (c : Cfg) (cond : Forest → Bool) (G : Forest) (h : cond G = true) :
    Steps (assertM c cond) G G := by
  intro w hw
  refine ⟨w, ?_, hw⟩
  simp [assertM, hw, h]

theorem steps_checkLoop {G : Forest} (h : Inv G) (fuel n p : Nat) (hp : p < G.n)
    (hfuel : G.n < fuel) (hpn : p ≠ n) (hno : ∀ j, G.up j p ≠ some n) :
    Steps (checkLoop fuel n (some p)) G G := by
  intro w hw
  subst hw
  exact ⟨w, by simp only [checkLoop, hpn, if_false, h.onChain_false_of hp hfuel hno], rfl⟩

theorem steps_detach {c : Cfg} (hφ : c.φ = noFaults) (fuel y : Nat) {G : Forest} (h : Inv G)
    (hfuel : G.n < fuel) : Steps (setParent c fuel y none) G (Spec.detached G y) := by
  intro w hw
  subst hw
  exact ⟨_, setParent_window fuel y none w h trivial hfuel (.of_noFaults hφ _ _), rfl⟩

theorem steps_move {c : Cfg} (hφ : c.φ = noFaults) (fuel n p : Nat) {G : Forest} (h : Inv G)
    (hp : p < G.n) (hfuel : G.n < fuel) (hne : G.parent n ≠ some p) (hpn : p ≠ n)
    (hanc : Spec.isAnc G n p = false) :
    Steps (setParent c fuel n (some (.node p))) G (Spec.attached (Spec.detached G n) n p) := by
  intro w hw
  subst hw
  have e := setParent_window fuel n (some (.node p)) w h hp hfuel (.of_noFaults hφ _ _)
  rw [Spec.setParent_move c.fl hne hpn hanc] at e
  exact ⟨_, e, rfl⟩

/-- `n` can be attached under `p` -/
structure Ready (u : Forest) (n p k : Nat) : Prop where
  inv : Inv u
  root : u.parent n = none
  chain : ∀ j, u.up j p ≠ some n
  size : u.n = k

theorem Ready.detached {u : Forest} {n p k : Nat} (r : Ready u n p k) (x : Nat) :
    Ready (Spec.detached u x) n p k := by
  refine ⟨Spec.inv_detached r.inv x, ?_, ?_, ?_⟩
  · rw [Spec.detached_parent, r.root]; simp
  · intro j hj; exact r.chain j (Spec.up_detached_some j p n hj)
  · rw [Spec.detached_n, r.size]

theorem Ready.self {s : Forest} (h : Inv s) {n p : Nat} (hno : ∀ j, s.up j p ≠ some n) :
    Ready (Spec.detached s n) n p s.n := by
  refine ⟨Spec.inv_detached h n, ?_, ?_, Spec.detached_n s n⟩
  · rw [Spec.detached_parent]; simp
  · intro j hj; exact hno j (Spec.up_detached_some j p n hj)

theorem Ready.inv_attached {u : Forest} {n p k : Nat} (r : Ready u n p k) (hn : n < k)
    (hp : p < k) : Inv (Spec.attached u n p) := by
  rw [Spec.attached_eq]
  exact inv_attachRaw r.inv r.root r.chain (by rw [r.size]; exact hn) (by rw [r.size]; exact hp)

theorem steps_bracket {c : Cfg} (hφ : c.φ = noFaults) (k k' : HookKind) (n : Nat) (l : List Nat)
    {a b : M} {cond : Forest → Bool} {u : Forest → Forest} {G G1 F : Forest} (ha : Steps a G G1)
    (hc : cond G1 = true) (hb : Steps b (u G1) F) :
    Steps (hook c k n l ⨾ a ⨾ assertM c cond ⨾ M.modify u ⨾ hook c k' n l ⨾ b) G F :=
  (((((steps_hook hφ k n l G).seq ha).seq (steps_assert c cond G1 hc)).seq (steps_modify u G1)).seq
    (steps_hook hφ k' n l (u G1))).seq hb

section
variable {c : Cfg} (hφ : c.φ = noFaults)
include hφ

/-- either hook of the detach half detaches `y ≠ n`: `_pre_detach` (position 0: first `y`, then `n`) or
`_post_detach` (position 1: first `n`, then `y`) -/
theorem steps_detachR_either (fuel n o pos y : Nat) {s : Forest} (h : Inv s) (hfuel : s.n < fuel)
    (ho : s.parent n = some o) (hyn : y ≠ n) (hpos : pos < 2) :
    Steps (detachR c fuel n (some o) pos y) s (Spec.detached (Spec.detached s n) y) := by
  rcases pos with _ | _ | pos
  · have h1 : Inv (Spec.detached s y) := Spec.inv_detached h y
    have hpar : (Spec.detached s y).parent n = some o := by
      rw [Spec.detached_parent, if_neg (Ne.symm hyn), ho]
    have hm : n ∈ (Spec.detached s y).children o := (h1.bidir n o).1 hpar
    rw [Spec.detached_comm h n y, Spec.detached_eq hpar]
    exact steps_bracket hφ _ _ n [o] (steps_ite_pos rfl (steps_detach hφ fuel y h hfuel)) (by simp [hm])
      (steps_ite_neg (by decide) (steps_ok _))
  · have hm : n ∈ s.children o := (h.bidir n o).1 ho
    have h1 : Inv (s.detachRaw n o) := inv_detachRaw h ho
    rw [Spec.detached_eq ho]
    exact steps_bracket hφ _ _ n [o] (steps_ite_neg (by decide) (steps_ok _)) (by simp [hm])
      (steps_ite_pos rfl (steps_detach hφ fuel y h1 (by simpa using hfuel)))
  · exact absurd hpos (Nat.not_lt.2 (Nat.le_add_left 2 pos))

/-- the hook re-enters elsewhere: plain `__detach` -/
theorem steps_detachR_plain (fuel n pos y : Nat) {s : Forest} (h : Inv s) (h0 : pos ≠ 0)
    (h1 : pos ≠ 1) :
    Steps (detachR c fuel n (s.parent n) pos y) s (Spec.detached s n) := by
  cases ho : s.parent n with
  | none => rw [Spec.detached_root ho]; exact steps_ok s
  | some o =>
    have hm : n ∈ s.children o := (h.bidir n o).1 ho
    rw [Spec.detached_eq ho]
    exact steps_bracket hφ _ _ n [o] (steps_ite_neg h0 (steps_ok _)) (by simp [hm])
      (steps_ite_neg h1 (steps_ok _))

theorem steps_attachR_plain (fuel n p pos y : Nat) {u : Forest} {k : Nat} (r : Ready u n p k)
    (h2 : pos ≠ 2) (h3 : pos ≠ 3) :
    Steps (attachR c fuel n p pos y) u (Spec.attached u n p) := by
  rw [Spec.attached_eq]
  exact steps_bracket hφ _ _ n [p] (steps_ite_neg h2 (steps_ok _))
    (by simp [r.inv.not_mem_of_root r.root p])
    (steps_ite_neg h3 (steps_ok _))

/-- either hook of the attach half detaches `y ≠ n`: `_pre_attach` (position 2) or `_post_attach`
(position 3, where detaching `y` afterwards commutes with the attach) -/
theorem steps_attachR_either (fuel n p pos y : Nat) {u : Forest} {k : Nat} (r : Ready u n p k)
    (hn : n < k) (hp : p < k) (hfuel : k < fuel) (hyn : y ≠ n) (h2 : 2 ≤ pos) (h4 : pos < 4) :
    Steps (attachR c fuel n p pos y) u (Spec.attached (Spec.detached u y) n p) := by
  rcases (Nat.eq_or_lt_of_le h2).imp_right fun h3 => Nat.le_antisymm (Nat.le_of_lt_succ h4) h3
    with rfl | rfl
  · have r' := r.detached y
    rw [Spec.attached_eq]
    exact steps_bracket hφ _ _ n [p]
      (steps_ite_pos rfl (steps_detach hφ fuel y r.inv (by rw [r.size]; exact hfuel)))
      (by simp [r'.inv.not_mem_of_root r'.root p]) (steps_ite_neg (by decide) (steps_ok _))
  · have hA : Inv (u.attachRaw n p) := by rw [← Spec.attached_eq]; exact r.inv_attached hn hp
    rw [← Spec.detached_attached r.inv (r.inv_attached hn hp) hyn, Spec.attached_eq]
    exact steps_bracket hφ _ _ n [p] (steps_ite_neg (by decide) (steps_ok _))
      (by simp [r.inv.not_mem_of_root r.root p])
      (steps_ite_pos rfl (steps_detach hφ fuel y hA (by simpa [r.size] using hfuel)))

theorem steps_detach_then_move (fuel n p y : Nat) {s : Forest} (h : Inv s) (hp : p < s.n) (hyn : y ≠ n)
    (hfuel : s.n < fuel) (hne : s.parent n ≠ some p) (hpn : p ≠ n)
    (hanc : Spec.isAnc s n p = false) :
    Steps (setParent c fuel y none ⨾ setParent c fuel n (some (.node p))) s
      (Spec.attached (Spec.detached (Spec.detached s y) n) n p) := by
  have h1 : Inv (Spec.detached s y) := Spec.inv_detached h y
  have hsz : (Spec.detached s y).n = s.n := Spec.detached_n s y
  refine (steps_detach hφ fuel y h hfuel).seq
    (steps_move hφ fuel n p h1 (by rw [hsz]; exact hp) (by rw [hsz]; exact hfuel) ?_ hpn
      (Spec.isAnc_detached_false h y hp hanc))
  rw [Spec.detached_parent, if_neg (Ne.symm hyn)]
  exact hne

/-- the body of `setParentR` after the no-op test -/
theorem steps_setParentR (fuel n p pos y : Nat) {s : Forest} (h : Inv s) (hn : n < s.n)
    (hp : p < s.n) (hyn : y ≠ n) (hfuel : s.n < fuel) (hpn : p ≠ n)
    (hanc : Spec.isAnc s n p = false) (hpos : pos < 4) (hpar : pos < 2 → s.parent n ≠ none) :
    Steps (checkLoop fuel n (some p) ⨾ detachR c fuel n (s.parent n) pos y ⨾
        attachR c fuel n p pos y) s
      (Spec.attached (Spec.detached (Spec.detached s y) n) n p) := by
  have hno : ∀ j, s.up j p ≠ some n := (h.chain_avoid_iff hp).2 ⟨Ne.symm hpn, hanc⟩
  have hcl := steps_checkLoop h fuel n p hp hfuel hpn hno
  have rn : Ready (Spec.detached s n) n p s.n := Ready.self h hno
  rw [Spec.detached_comm h y n]
  rcases Nat.lt_or_ge pos 2 with h2 | h2
  · cases ho : s.parent n with
    | none => exact absurd ho (hpar h2)
    | some o =>
      exact (hcl.seq (steps_detachR_either hφ fuel n o pos y h hfuel ho hyn h2)).seq
        (steps_attachR_plain hφ fuel n p pos y (rn.detached y) (Nat.ne_of_lt h2)
          (Nat.ne_of_lt (Nat.lt_succ_of_lt h2)))
  · exact (hcl.seq (steps_detachR_plain hφ fuel n pos y h
        (Nat.ne_of_gt (Nat.lt_of_lt_of_le Nat.zero_lt_two h2)) (Nat.ne_of_gt h2))).seq
      (steps_attachR_either hφ fuel n p pos y rn hn hp hfuel hyn h2 hpos)

end

/-! The children deleter whose detach hook of one child detaches another node (C02s): positions 0 and 1
only, the detach hooks. -/

section
variable {c : Cfg} (hφ : c.φ = noFaults)
include hφ

theorem steps_setParentNoneR (fuel x pos y : Nat) {G : Forest} (h : Inv G) (hfuel : G.n < fuel)
    (hpx : G.parent x ≠ none) (hyx : y ≠ x) (hpos : pos < 2) :
    Steps (setParentNoneR c fuel x pos y) G (Spec.detached (Spec.detached G x) y) := by
  cases ho : G.parent x with
  | none => exact absurd ho hpx
  | some o =>
    intro w hw
    obtain ⟨w', e, f⟩ := steps_detachR_either hφ fuel x o pos y h hfuel ho hyx hpos w hw
    refine ⟨w', ?_, f⟩
    simp only [setParentNoneR, hw, ho, if_false, reduceCtorEq]
    exact e

theorem steps_loopR_plain (fuel x pos y : Nat) :
    ∀ (cs : List Nat) (G : Forest), Inv G → G.n < fuel → x ∉ cs →
      Steps (forM' cs (fun ch => if ch = x then setParentNoneR c fuel ch pos y else setParent c fuel ch none))
        G (Spec.detachAll G cs).1 := by
  intro cs
  induction cs with
  | nil => intro G _ _ _; exact steps_ok G
  | cons ch cs ih =>
    intro G h hfuel hx
    have hne : ch ≠ x := fun e => hx (by simp [e])
    have hx' : x ∉ cs := fun hm => hx (by simp [hm])
    simp only [forM', Spec.detachAll]
    refine Steps.seq (steps_ite_neg hne (steps_detach hφ fuel ch h hfuel)) ?_
    exact ih _ (Spec.inv_detached h ch) (by rw [Spec.detached_n]; exact hfuel) hx'

theorem steps_loopR (fuel x pos y : Nat) (hyx : y ≠ x) (hpos : pos < 2) :
    ∀ (cs : List Nat) (G : Forest), Inv G → G.n < fuel → x ∈ cs → cs.Nodup → G.parent x ≠ none →
      Steps (forM' cs (fun ch => if ch = x then setParentNoneR c fuel ch pos y else setParent c fuel ch none))
        G (Spec.detached (Spec.detachAll G cs).1 y) := by
  intro cs
  induction cs with
  | nil => intro G _ _ hx; simp at hx
  | cons ch cs ih =>
    intro G h hfuel hx hnd hpx
    rw [List.nodup_cons] at hnd
    simp only [forM', Spec.detachAll]
    by_cases hc : ch = x
    · subst hc
      have h1 : Inv (Spec.detached G ch) := Spec.inv_detached h ch
      have h2 : Inv (Spec.detached (Spec.detached G ch) y) := Spec.inv_detached h1 y
      refine Steps.seq (steps_ite_pos rfl (steps_setParentNoneR hφ fuel ch pos y h hfuel hpx hyx hpos)) ?_
      rw [← Spec.detachAll_detached h1 y cs]
      exact steps_loopR_plain hφ fuel ch pos y cs _ h2
        (by rw [Spec.detached_n, Spec.detached_n]; exact hfuel) hnd.1
    · have hx' : x ∈ cs := by
        rcases List.mem_cons.1 hx with e | e
        · exact absurd e.symm hc
        · exact e
      refine Steps.seq (steps_ite_neg hc (steps_detach hφ fuel ch h hfuel)) ?_
      apply ih _ (Spec.inv_detached h ch) (by rw [Spec.detached_n]; exact hfuel) hx' hnd.2
      rw [Spec.detached_parent, if_neg (Ne.symm hc)]
      exact hpx

theorem steps_delChildrenR (fuel n x pos y : Nat) {s : Forest} (h : Inv s) (hfuel : s.n < fuel)
    (hx : x ∈ s.children n) (hyx : y ≠ x) (hpos : pos < 2) :
    Steps (delChildrenR c fuel n x pos y) s (Spec.detached (Spec.detachAll s (s.children n)).1 y) := by
  have hpx : s.parent x ≠ none := by
    rw [(h.bidir x n).2 hx]; exact fun e => by cases e
  have h1 := steps_hook hφ .preDetachChildren n (s.children n) s
  have h2 := steps_loopR hφ fuel x pos y hyx hpos (s.children n) s h hfuel hx (h.nodup n) hpx
  have h3 := steps_assert c (fun f => (f.children n).length == 0)
    (Spec.detached (Spec.detachAll s (s.children n)).1 y)
    (by simp [Spec.detachAll_detached_children_nil h n y])
  have h4 := steps_hook hφ .postDetachChildren n (s.children n)
    (Spec.detached (Spec.detachAll s (s.children n)).1 y)
  intro w hw
  obtain ⟨w', e, f⟩ := (((h1.seq h2).seq h3).seq h4) w hw
  refine ⟨w', ?_, f⟩
  simp only [delChildrenR, hw]
  exact e

theorem steps_delChildren (fuel n : Nat) {G : Forest} (h : Inv G) (hfuel : G.n < fuel) :
    Steps (delChildren c fuel n) G (Spec.detachAll G (G.children n)).1 := by
  intro w hw
  subst hw
  exact ⟨_, delChildren_window fuel n w h (.of_noFaults hφ _ _), rfl⟩

theorem steps_detach_then_delChildren (fuel n y : Nat) {s : Forest} (h : Inv s) (hfuel : s.n < fuel) :
    Steps (setParent c fuel y none ⨾ delChildren c fuel n) s
      (Spec.detached (Spec.detachAll s (s.children n)).1 y) := by
  have h1 : Inv (Spec.detached s y) := Spec.inv_detached h y
  have hroot : (Spec.detached s y).parent y = none := by rw [Spec.detached_parent]; simp
  have e : (Spec.detachAll (Spec.detached s y) ((Spec.detached s y).children n)).1 =
      Spec.detached (Spec.detachAll s (s.children n)).1 y := by
    rw [Spec.detached_children h, Spec.detachAll_filter_root y _ _ hroot, Spec.detachAll_detached h]
  rw [← e]
  exact (steps_detach hφ fuel y h hfuel).seq
    (steps_delChildren hφ fuel n h1 (by rw [Spec.detached_n]; exact hfuel))

end

end Anytree
