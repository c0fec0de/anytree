import Anytree.Lemmas.Quiet
/-!
The attach phase of the children setter when one step of the `try` block fails (a hook raises once, or
an element is refused) and the schedule is quiet elsewhere: the run up to the failure, and the complete,
successful restore after it.  The restore ends in `Spec.restored` whatever the processed elements were
(`setChildrenNodes_restore`).  The state after a processed prefix is `Spec.childrenAssigned` of that
prefix (`Spec.attachAll_delChildren`); that the restore gives the pre-state back when none of the
processed elements came from another parent is a fact about the specification (`Spec.restored_eq_self`).
-/
namespace Anytree

theorem Spec.Legal.restore {s : Forest} {n : Nat} {pre : List Nat} (L : Spec.Legal s n pre) :
    Spec.Legal (Spec.attachAll (Spec.delChildren s n).f n pre).1 n (s.children n) := by
  obtain ⟨_, ai, au⟩ := Spec.attachAll_delChildren L
  have h := L.inv
  have hSn := L.attachAll_n
  exact ⟨ai, hSn ▸ L.node, h.nodup n, fun x hx => hSn ▸ h.child_lt hx, fun x hx =>
    (ai.chain_avoid_iff (hSn ▸ L.node)).1 fun j => au j ▸ h.child_not_on_chain hx j⟩

/-- the forest the restore `self.children = old_children` produces after the elements `pre` had been
attached: the closed-form children assignment of the old children, from the partially attached state -/
def Spec.restored (fl : Flavor) (s : Forest) (n : Nat) (pre : List Nat) : Forest :=
  (Spec.setChildren fl (Spec.attachAll (Spec.delChildren s n).f n pre).1 n
    (some ((s.children n).map Arg.node))).f

/-- the complement of finding K3: when every processed element was parentless or a child of `n` before
the call, assigning the old children again puts every link back -/
theorem Spec.restored_eq_self {s : Forest} {n : Nat} {pre : List Nat} (L : Spec.Legal s n pre)
    (hpar : ∀ y ∈ pre, s.parent y = none ∨ s.parent y = some n) (fl : Flavor) :
    Spec.restored fl s n pre = s := by
  have h := L.inv
  rw [Spec.restored, Spec.setChildren_eq_childrenAssigned fl L.restore, (Spec.attachAll_delChildren L).1]
  refine Forest.ext rfl (funext fun y => ?_) (funext fun q => ?_)
  · simp only [Spec.childrenAssigned_parent, List.contains_eq_mem, decide_eq_true_eq]
    -- an old child of `n` gets `n` back; one of `pre` was parentless before, by `hpar`; the others were
    -- never touched
    by_cases hy : y ∈ s.children n
    · rw [if_pos hy, (h.bidir y n).2 hy]
    · have hyn : s.parent y ≠ some n := fun e => hy ((h.bidir y n).1 e)
      by_cases hyp : y ∈ pre
      · rw [if_neg hy, if_pos hyp, if_pos rfl, (hpar y hyp).resolve_right hyn]
      · rw [if_neg hy, if_neg hyp, if_neg hyn, if_neg hyn]
  · by_cases hq : q = n
    · rw [hq]; exact if_pos rfl
    · simp only [Spec.childrenAssigned_children, hq, if_false, List.filter_filter]
      apply List.filter_eq_self.mpr
      intro a ha
      -- a child of `q ≠ n` is neither an old child of `n` nor, by `hpar`, one of `pre`
      have hpa : s.parent a = some q := (h.bidir a q).2 ha
      have h1 : a ∉ s.children n := fun hm => hq (Option.some.inj (hpa.symm.trans ((h.bidir a n).2 hm)))
      have h2 : a ∉ pre := fun hm => by
        rcases hpar a hm with e | e <;> rw [hpa] at e
        · cases e
        · exact hq (Option.some.inj e)
      simp only [List.contains_eq_mem, h1, h2, decide_false, Bool.not_false, Bool.and_self]

/-- **the restore**: after a quiet delete phase, if the `try` block raises `e` in the state in which the
elements `pre` have been attached (wherever they came from), and no later hook invocation raises, then
the restore `self.children = old_children` returns and the call raises `e`; the final links are those
of `Spec.restored`.  The `try` block is given as code (`ht`), not as a plan: of the elements after the
failing one nothing is known (they need not exist nor be distinct), so the block as a whole has no plan;
the callers run the part before the failure as one. -/
theorem setChildrenNodes_restore {c : Cfg} (fuel : Nat) {n : Nat} (xs : List Nat)
    {pre : List Nat} (w w3 : World) (e : Err) (he : e ≠ .diverged) (L : Spec.Legal w.f n pre)
    (hfuel : w.f.n + 2 < fuel)
    (hqd : Quiet c w.cnt (w.cnt + (Spec.delChildren w.f n).log.length))
    (ht : (hook c .preAttachChildren n xs ⨾
        forM' xs (fun x => setParent c fuel x (some (.node n))) ⨾
        hook c .postAttachChildren n xs ⨾
        assertM c (fun f => (f.children n).length == xs.length))
        (w.adv (Spec.delChildren w.f n).f (Spec.delChildren w.f n).log) = (.error e, w3))
    (hw3 : w3.f = (Spec.attachAll (Spec.delChildren w.f n).f n pre).1)
    (hqr : QuietFrom c w3.cnt) :
    (setChildrenNodes c (fuel + 1) n xs w).1 = .error e ∧
    (setChildrenNodes c (fuel + 1) n xs w).2.f = Spec.restored c.fl w.f n pre := by
  have h := L.inv
  have an := L.attachAll_n
  obtain ⟨f3, l3, c3⟩ := w3
  simp only at hw3 hqr
  subst hw3
  have hr := setChildrenNodes_window (c := c) fuel
    ⟨(Spec.attachAll (Spec.delChildren w.f n).f n pre).1, l3, c3⟩ L.restore
    (an ▸ hfuel) (hqr.quiet _)
  rw [setChildrenNodes_raised fuel n xs h he (delChildren_window fuel n w h hqd) ht, M.seq_ok hr]
  exact ⟨rfl, rfl⟩

theorem setParent_first_raise {c : Cfg} {fuel x n : Nat} {W : World} (h : Inv W.f) (hn : n < W.f.n)
    (hfuel : W.f.n < fuel) (hne : W.f.parent x ≠ some n) (hno : ∀ j, W.f.up j n ≠ some x)
    {k : HookKind} (hk : (W.f.parent x = none ∧ k = .preAttach) ∨ (W.f.parent x ≠ none ∧ k = .preDetach))
    (hat : c.φ W.cnt k x = true) :
    ∃ w3, setParent c fuel x (some (.node n)) W = (.error (.hook W.cnt k x), w3) ∧ w3.f = W.f ∧
      w3.cnt = W.cnt + 1 := by
  rw [IsPlan.setParent c fuel x _ h W rfl, setParentPlan_move h c.fl hn hfuel hne hno]
  cases hp : W.f.parent x with
  | none =>
    obtain ⟨_, rfl⟩ := hk.resolve_right fun hk => hk.1 hp
    exact ⟨_, Plan.run_head_raise (t := ⟨Spec.detached W.f x, .preAttach, x, [n]⟩)
      (by simp only [movePlan, detachPlan, hp]; rfl) hat, Spec.detached_root hp, rfl⟩
  | some q =>
    obtain ⟨_, rfl⟩ := hk.resolve_left fun hk => by rw [hp] at hk; cases hk.1
    exact ⟨_, Plan.run_head_raise (t := ⟨W.f, .preDetach, x, [q]⟩)
      (by simp only [movePlan, detachPlan, hp]; rfl) hat, rfl, rfl⟩

theorem setChildrenNodes_preAttachChildren_veto {c : Cfg} (fuel n : Nat) (xs : List Nat) (w : World)
    (h : Inv w.f) (hfuel : w.f.n + 2 < fuel) (hn : n < w.f.n) (i0 : Nat)
    (hi0 : i0 = w.cnt + (Spec.delChildren w.f n).log.length)
    (hbefore : Quiet c w.cnt i0) (hat : c.φ i0 .preAttachChildren n = true)
    (hafter : QuietFrom c (i0 + 1)) :
    (setChildrenNodes c (fuel + 1) n xs w).1 = .error (.hook i0 .preAttachChildren n) ∧
    (setChildrenNodes c (fuel + 1) n xs w).2.f = w.f := by
  subst hi0
  have e2 := (IsPlan.hook (c := c) .preAttachChildren n xs _ rfl).trans
    (Plan.run_head_raise (w := w.adv (Spec.delChildren w.f n).f (Spec.delChildren w.f n).log)
      (t := ⟨_, .preAttachChildren, n, xs⟩) rfl hat)
  have := setChildrenNodes_restore fuel xs w _ _ (by intro e; cases e) (.nil h hn) hfuel
    hbefore (M.seq_err (M.seq_err (M.seq_err e2))) rfl fun i k m hi =>
      hafter i k m hi
  rwa [Spec.restored_eq_self (.nil h hn) (fun _ hm => absurd hm List.not_mem_nil) c.fl] at this

/-- the world in which the attach loop reaches the element after `pre` -/
def loopWorld (w : World) (n : Nat) (xs pre : List Nat) : World :=
  w.adv (Spec.attachAll (Spec.delChildren w.f n).f n pre).1
    ((Spec.delChildren w.f n).log ++
      [Spec.ev .preAttachChildren n xs (Spec.delChildren w.f n).f] ++
      (Spec.attachAll (Spec.delChildren w.f n).f n pre).2)

theorem loopWorld_f (w : World) (n : Nat) (xs pre : List Nat) :
    (loopWorld w n xs pre).f = (Spec.attachAll (Spec.delChildren w.f n).f n pre).1 := rfl

/-- the hub of the failures inside the attach loop: quiet up to the element `x` after the prefix `pre`,
there `x.parent = n` raises `e` without changing a link, quiet afterwards -/
theorem setChildrenNodes_attach_step_fail {c : Cfg} (fuel : Nat) {n : Nat} {pre : List Nat}
    (x : Nat) (post : List Nat) (w w3 : World) (e : Err) (he : e ≠ .diverged)
    (L : Spec.Legal w.f n pre) (hfuel : w.f.n + 2 < fuel)
    (hq : Quiet c w.cnt (loopWorld w n (pre ++ x :: post) pre).cnt)
    (hstep : setParent c fuel x (some (.node n)) (loopWorld w n (pre ++ x :: post) pre) =
      (.error e, w3))
    (hw3 : w3.f = (loopWorld w n (pre ++ x :: post) pre).f)
    (hqr : QuietFrom c w3.cnt) :
    (setChildrenNodes c (fuel + 1) n (pre ++ x :: post) w).1 = .error e ∧
    (setChildrenNodes c (fuel + 1) n (pre ++ x :: post) w).2.f = Spec.restored c.fl w.f n pre := by
  have D := Spec.delChildren_props L.inv n
  have hA := attachLoopPlan_spec c.fl (fuel := fuel) pre _ L.canAttach (D.size ▸ Nat.lt_of_add_right_lt hfuel)
  simp only [loopWorld, World.adv_cnt, List.length_append, List.length_cons, List.length_nil] at hq
  -- the `_pre_attach_children` hook and the loop over `pre` are a plan; it is carried out
  have hreach : (hook c .preAttachChildren n (pre ++ x :: post) ⨾
      forM' pre fun x => setParent c fuel x (some (.node n)))
      (w.adv (Spec.delChildren w.f n).f (Spec.delChildren w.f n).log) =
      (.ok (), loopWorld w n (pre ++ x :: post) pre) := by
    refine (((IsPlan.hook .preAttachChildren n (pre ++ x :: post)).seq
        (IsPlan.attachLoop c fuel ⟨D.inv, D.size⟩ L.node L.lt)).window
      (w := w.adv (Spec.delChildren w.f n).f (Spec.delChildren w.f n).log) ((Plan.Matches.call ..).append hA)
      (hq.mono (Nat.le_add_right _ _) (by
        simp only [World.adv_cnt, List.length_append, List.length_cons, List.length_nil, Nat.add_assoc,
          Nat.le_refl]))).trans ?_
    rw [World.adv_adv, ← List.append_assoc]
    rfl
  exact setChildrenNodes_restore fuel (pre ++ x :: post) w w3 e he L hfuel
    (hq.mono (Nat.le_refl _) (Nat.add_le_add_left (Nat.le_add_right_of_le (Nat.le_add_right ..)) _))
    (M.seq_err (M.seq_err (by
      rw [forM'_append, ← M.seq_assoc, M.seq_ok hreach]; exact M.seq_err hstep))) hw3 hqr

theorem setChildrenNodes_elem_veto {c : Cfg} (fuel : Nat) {n : Nat} {pre : List Nat} (x : Nat)
    (post : List Nat) (w : World) (L : Spec.Legal w.f n pre) (hfuel : w.f.n + 2 < fuel)
    (hxpre : x ∉ pre) (hxatt : x ≠ n ∧ Spec.isAnc w.f x n = false) (k : HookKind)
    (hk : ((w.f.parent x = none ∨ w.f.parent x = some n) ∧ k = .preAttach) ∨
      ((∃ q, w.f.parent x = some q ∧ q ≠ n) ∧ k = .preDetach))
    (i0 : Nat) (hi0 : i0 = (loopWorld w n (pre ++ x :: post) pre).cnt)
    (hbefore : Quiet c w.cnt i0) (hat : c.φ i0 k x = true)
    (hafter : QuietFrom c (i0 + 1)) :
    (setChildrenNodes c (fuel + 1) n (pre ++ x :: post) w).1 = .error (.hook i0 k x) ∧
    (setChildrenNodes c (fuel + 1) n (pre ++ x :: post) w).2.f = Spec.restored c.fl w.f n pre := by
  subst hi0
  obtain ⟨eS, ai, au⟩ := Spec.attachAll_delChildren L
  have h := L.inv
  have hn := L.node
  have an := L.attachAll_n
  have hpx : (loopWorld w n (pre ++ x :: post) pre).f.parent x =
      if w.f.parent x = some n then none else w.f.parent x := by
    rw [loopWorld_f, eS, Spec.childrenAssigned_parent]; simp [hxpre]
  obtain ⟨w3, hstep, hw3, hc3⟩ := setParent_first_raise (c := c) (fuel := fuel) (x := x) (n := n)
    (W := loopWorld w n (pre ++ x :: post) pre) ai (an.symm ▸ hn)
    (an.symm ▸ Nat.lt_of_add_right_lt hfuel)
    (by rw [hpx]; split <;> simp [*])
    (fun j => by rw [loopWorld_f, au]; exact (h.chain_avoid_iff hn).2 hxatt j)
    (k := k) (by
      rw [hpx]
      rcases hk with ⟨e | e, rfl⟩ | ⟨⟨q, e, hq⟩, rfl⟩
      · simp [e]
      · simp [e]
      · simp [e, hq]) hat
  exact setChildrenNodes_attach_step_fail fuel x post w w3 _ (by intro e; cases e) L hfuel
    hbefore hstep hw3 fun i k m hi => hafter i k m (hc3 ▸ hi)

theorem setChildrenNodes_loopError {c : Cfg} (fuel : Nat) {n : Nat} {pre : List Nat} (x : Nat)
    (post : List Nat) (w : World) (L : Spec.Legal w.f n pre) (hfuel : w.f.n + 2 < fuel)
    (hbad : x = n ∨ Spec.isAnc w.f x n = true)
    (hq : QuietFrom c w.cnt) :
    (setChildrenNodes c (fuel + 1) n (pre ++ x :: post) w).1 = .error .loopError ∧
    (setChildrenNodes c (fuel + 1) n (pre ++ x :: post) w).2.f = Spec.restored c.fl w.f n pre := by
  obtain ⟨_, ai, au⟩ := Spec.attachAll_delChildren L
  have h := L.inv
  have hn := L.node
  have an := L.attachAll_n
  have hup : ∃ j, (loopWorld w n (pre ++ x :: post) pre).f.up j n = some x := by
    rw [loopWorld_f]
    rcases hbad with e | e
    · exact ⟨0, by simp [Forest.up, e]⟩
    · obtain ⟨k, _, hk⟩ := (h.isAnc_iff hn).1 e
      exact ⟨k, by rw [au]; exact hk⟩
  have hstep : setParent c fuel x (some (.node n)) (loopWorld w n (pre ++ x :: post) pre) =
      (.error .loopError, loopWorld w n (pre ++ x :: post) pre) := by
    rw [IsPlan.setParent c fuel x _ ai _ rfl, setParentPlan_loop ai c.fl (an.symm ▸ hn) (an.symm ▸ Nat.lt_of_add_right_lt hfuel)
      (fun hp => hup.elim fun j => ai.child_not_on_chain ((ai.bidir x n).1 hp) j) hup]
    rfl
  exact setChildrenNodes_attach_step_fail fuel x post w _ _ (by intro e; cases e) L hfuel
    (hq.quiet _) hstep rfl
    (fun i k m hi => hq i k m (Nat.le_trans (by simp only [loopWorld, World.adv_cnt]; exact Nat.le_add_right ..) hi))

theorem setChildrenNodes_loopError_nf {c : Cfg} (hφ : c.φ = noFaults) (fuel n : Nat) (xs : List Nat)
    (w : World) (h : Inv w.f) (hfuel : w.f.n + 2 < fuel) (hn : n < w.f.n) (hnd : xs.Nodup)
    (hlt : ∀ x ∈ xs, x < w.f.n)
    (hbad : xs.any (fun x => x = n || Spec.isAnc w.f x n) = true) :
    (setChildrenNodes c (fuel + 1) n xs w).1 = .error .loopError := by
  obtain ⟨x, hf⟩ := Option.isSome_iff_exists.1 (List.find?_isSome.2 (List.any_eq_true.1 hbad))
  obtain ⟨hx, pre, post, rfl, hpre⟩ := List.find?_eq_some_iff_append.1 hf
  refine (setChildrenNodes_loopError fuel x post w ⟨h, hn, (List.nodup_append.mp hnd).1,
    fun y hy => hlt y (by simp [hy]), fun y hy => ?_⟩ hfuel ?_ (.of_noFaults hφ _)).1
  · simpa using hpre y hy
  · simpa using hx

/-- two invocations for every former child, the deleter's own two, `_pre_attach_children`, and two for
every element attached so far (none of them has a parent left to be detached from) -/
theorem loopWorld_cnt {w : World} (h : Inv w.f) (n : Nat) (xs pre : List Nat) (hnd : pre.Nodup)
    (hpar : ∀ y ∈ pre, w.f.parent y = none ∨ w.f.parent y = some n) :
    (loopWorld w n xs pre).cnt = w.cnt + 2 * (w.f.children n).length + 3 + 2 * pre.length := by
  have h1 := Spec.delChildren_log_length h n
  have h2 := Spec.attachAll_log_length n pre (Spec.delChildren w.f n).f hnd (fun y hy => by
    rw [(Spec.delChildren_props h n).parent]
    rcases hpar y hy with e | e <;> simp [e])
  simp only [loopWorld, World.adv_cnt, List.length_append, List.length_cons, List.length_nil, h1, h2]
  omega

end Anytree
