import Anytree.Lemmas.Calls
/-!
The mirror's calls while no hook raises: each is a pure function of the forest that appends the
events of its specification.  Stated for a window of invocation numbers on which the schedule is
quiet (`*_window`); `φ = noFaults` makes every window quiet (`Quiet.of_noFaults`).  For the children
setter this is the attach loop and the success path of `setChildrenNodes` / `setChildren`.  The lemmas
are about a call from any world `w`; `exec c fuel op s` is the call from `⟨s, [], 0⟩` by `rfl`, which is
how the property files read them (`exec_setChildren_nodes` is the one step that is not `rfl`).
-/
namespace Anytree

theorem setParent_window {c : Cfg} (fuel n : Nat) (v : Option Arg) (w : World) (h : Inv w.f)
    (hv : ArgOk w.f.n v) (hfuel : w.f.n < fuel)
    (hq : Quiet c w.cnt (w.cnt + (Spec.setParent c.fl w.f n v).log.length)) :
    setParent c fuel n v w =
      ((Spec.setParent c.fl w.f n v).res,
        w.adv (Spec.setParent c.fl w.f n v).f (Spec.setParent c.fl w.f n v).log) :=
  (IsPlan.setParent c fuel n v h).window (setParentPlan_spec h c.fl n hv hfuel) hq

/-- C01 for the specification of the parent setter: its result is consistent -/
theorem Spec.setParent_invSize {k : Nat} {s : Forest} (h : InvSize k s) (fl : Flavor) {n : Nat} (hn : n < k)
    {v : Option Arg} (hv : ArgOk k v) : InvSize k (Spec.setParent fl s n v).f := by
  obtain ⟨hi, rfl⟩ := h
  exact (setParentPlan_spec hi fl n hv (Nat.lt_succ_self _)).final ▸
    (setParentPlan_all ⟨hi, rfl⟩ fl (s.n + 1) hn hv).2

theorem delChildren_window {c : Cfg} (fuel n : Nat) (w : World) (h : Inv w.f)
    (hq : Quiet c w.cnt (w.cnt + (Spec.delChildren w.f n).log.length)) :
    delChildren c fuel n w =
      (.ok (), w.adv (Spec.delChildren w.f n).f (Spec.delChildren w.f n).log) :=
  (IsPlan.delChildren c fuel n h).window (delChildrenPlan_spec w.f n) hq

/-- The fuel: `x.parent = n` walks the chain of `n`, at most `s.n` steps, and needs `s.n < fuel`.  A level
of the children setter hands `fuel - 1` to its parent assignments and to the restore, which is another
level: a successful `setChildrenNodes c fuel` uses `s.n + 1 < fuel`, one that fails once and restores
`s.n + 2 < fuel` (`FuelShort` in `Lemmas/Walk` counts the levels that further faults cost).  The lemmas
about the setter ask one more than they use, `s.n + 2 < fuel` here; for `setChildrenNodes c (fuel + 1)`
and for `exec` with a restore that reads `+ 3`, and `+ 4` for a constructor, whose node is made first. -/
theorem setChildrenNodes_window {c : Cfg} (fuel : Nat) {n : Nat} {xs : List Nat} (w : World)
    (L : Spec.Legal w.f n xs) (hfuel : w.f.n + 2 < fuel)
    (hq : Quiet c w.cnt
      (w.cnt + (Spec.setChildren c.fl w.f n (some (xs.map Arg.node))).log.length)) :
    setChildrenNodes c fuel n xs w =
      (.ok (), w.adv (Spec.setChildren c.fl w.f n (some (xs.map Arg.node))).f
                     (Spec.setChildren c.fl w.f n (some (xs.map Arg.node))).log) := by
  obtain ⟨fuel, rfl⟩ := Nat.exists_eq_add_one.2 (Nat.zero_lt_of_lt hfuel)
  rw [Spec.setChildren_ok c.fl w.f n xs L.nodup L.ok] at hq ⊢
  simp only [List.length_append, ← Nat.add_assoc] at hq
  rw [setChildrenNodes_succ c fuel w ⟨L.inv, rfl⟩ L.node L.lt L.nodup, M.seq,
    (delChildrenPlan_spec w.f n).run (hq.mono (Nat.le_refl _)
      (Nat.le_add_right_of_le (Nat.le_add_right_of_le (Nat.le_add_right ..))))]
  simp only [M.tryCatch]
  rw [(attachPhasePlan_spec c.fl L (Nat.lt_of_add_right_lt (Nat.lt_of_succ_lt_succ hfuel))).run
    (hq.mono (Nat.le_add_right _ _) (by simp only [World.adv_cnt, List.length_append, Nat.add_assoc, Nat.le_refl])),
    World.adv_adv]
  simp only [List.append_assoc]

theorem setChildren_nodes (c : Cfg) (fuel n : Nat) {xs : List Nat} (hnd : xs.Nodup) :
    setChildren c fuel n (some (xs.map Arg.node)) = setChildrenNodes c fuel n xs := by
  simp only [setChildren, checkChildren_nodes c.fl xs [] hnd (fun _ _ hm => by simp at hm),
    argsToNodes_nodes]

theorem setChildren_window {c : Cfg} (fuel : Nat) {n : Nat} {xs : List Nat} (w : World)
    (L : Spec.Legal w.f n xs) (hfuel : w.f.n + 2 < fuel)
    (hq : Quiet c w.cnt
      (w.cnt + (Spec.setChildren c.fl w.f n (some (xs.map Arg.node))).log.length)) :
    setChildren c fuel n (some (xs.map Arg.node)) w =
      (.ok (), w.adv (Spec.setChildren c.fl w.f n (some (xs.map Arg.node))).f
                     (Spec.setChildren c.fl w.f n (some (xs.map Arg.node))).log) := by
  rw [setChildren_nodes c fuel n L.nodup]
  exact setChildrenNodes_window fuel w L hfuel hq

theorem exec_setChildren_nodes (c : Cfg) (fuel n : Nat) {xs : List Nat} (hnd : xs.Nodup) (s : Forest) :
    (exec c fuel (.setChildren n (some (xs.map Arg.node))) s).res =
      (setChildrenNodes c fuel n xs ⟨s, [], 0⟩).1 ∧
    (exec c fuel (.setChildren n (some (xs.map Arg.node))) s).f =
      (setChildrenNodes c fuel n xs ⟨s, [], 0⟩).2.f := by
  simp only [exec, Op.run, setChildren_nodes c fuel n hnd, and_self]

end Anytree
