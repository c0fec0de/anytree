import Anytree.Lemmas.Iter
import Anytree.Lemmas.Shape
/-!
C06 words admission by *positions*: a node below the start node is admitted iff its relative depth is
below `maxlevel` and no node on the path from the start node down to and including itself satisfies
`stop` (`Spec.Admitted`, over addresses).  `readOut S m t l` reads the admitted nodes of `t` off a list
`l` of addresses; a traversal of the address tree that commutes with relabelling reads out, over a
node's children, what it reads out below each child (`readOut_kids`).  Pre-order, post-order and the
single levels are three instances.
-/
namespace Anytree
open Tree
variable {α β : Type}

namespace Spec

/-- the node at address `a` below `t` is admitted: relative depth below `maxlevel`, and no node on the
path from the start node down to and including itself satisfies `stop` -/
def Admitted (S : Tree α → Bool) (m : Option Int) (t : Tree α) (a : Addr) : Prop :=
  (∀ k, m = some k → (a.length : Int) < k) ∧
  ∀ b, b <+: a → ∀ u, sub t b = some u → S u = false

/-- Boolean version of `Admitted` (the prefixes of `a` are `a.take 0 … a.take a.length`) -/
def admittedB (S : Tree α → Bool) (m : Option Int) (t : Tree α) (a : Addr) : Bool :=
  (match m with
   | none => true
   | some k => decide ((a.length : Int) < k)) &&
  (List.range (a.length + 1)).all (fun n =>
    match sub t (a.take n) with
    | none => true
    | some u => !S u)

theorem admittedB_iff (S : Tree α → Bool) (m : Option Int) (t : Tree α) (a : Addr) :
    admittedB S m t a = true ↔ Admitted S m t a := by
  unfold admittedB Admitted
  rw [Bool.and_eq_true, List.all_eq_true]
  constructor
  · rintro ⟨h1, h2⟩
    refine ⟨?_, ?_⟩
    · intro k hk; subst hk; simpa using h1
    · intro b hb u hu
      have hlen := hb.length_le
      have h := h2 b.length (List.mem_range.mpr (Nat.lt_succ_of_le hlen))
      rw [← List.prefix_iff_eq_take.mp hb, hu] at h
      simpa using h
  · rintro ⟨h1, h2⟩
    refine ⟨?_, ?_⟩
    · cases m with
      | none => rfl
      | some k => simpa using h1 k rfl
    · intro n _
      cases hu : sub t (a.take n) with
      | none => rfl
      | some u => simp [h2 _ (List.take_prefix n a) u hu]

instance (S : Tree α → Bool) (m : Option Int) (t : Tree α) (a : Addr) :
    Decidable (Admitted S m t a) :=
  decidable_of_iff _ (admittedB_iff S m t a)

theorem Admitted.not_cut {S : Tree α → Bool} {m : Option Int} {t : Tree α} {a : Addr}
    (h : Admitted S m t a) : cut m = false := by
  cases m with
  | none => rfl
  | some k =>
    have := h.1 k rfl
    simp only [cut, decide_eq_false_iff_not]
    omega

theorem Admitted.not_stop_start {S : Tree α → Bool} {m : Option Int} {t : Tree α} {a : Addr}
    (h : Admitted S m t a) : S t = false :=
  h.2 [] (List.nil_prefix) t rfl

theorem admitted_nil (S : Tree α → Bool) (m : Option Int) (t : Tree α) :
    Admitted S m t [] ↔ cut m = false ∧ S t = false := by
  constructor
  · intro h; exact ⟨h.not_cut, h.not_stop_start⟩
  · rintro ⟨hc, hs⟩
    refine ⟨?_, ?_⟩
    · intro k hk; subst hk
      simpa [cut] using hc
    · intro b hb u hu
      have : b = [] := List.prefix_nil.mp hb
      subst this
      simp only [sub, Option.some.injEq] at hu
      subst hu; exact hs

theorem admitted_cons (S : Tree α → Bool) (m : Option Int) (t : Tree α) (i : Nat) (is : Addr)
    (c : Tree α) (hc : t.kids[i]? = some c) :
    Admitted S m t (i :: is) ↔ S t = false ∧ Admitted S (lower m) c is := by
  constructor
  · intro h
    refine ⟨h.not_stop_start, ?_, ?_⟩
    · intro k' hk'
      cases m with
      | none => simp [lower] at hk'
      | some k =>
        simp only [lower, Option.map_some, Option.some.injEq] at hk'
        have := h.1 k rfl
        simp only [List.length_cons] at this
        omega
    · intro b hb u hu
      apply h.2 (i :: b) ((List.prefix_cons_inj i).mpr hb) u
      rw [sub_cons_of_kid t i b c hc]; exact hu
  · rintro ⟨hs, h1, h2⟩
    refine ⟨?_, ?_⟩
    · intro k hk; subst hk
      have := h1 (k - 1) (by simp [lower])
      simp only [List.length_cons]
      omega
    · intro b hb u hu
      cases b with
      | nil => simp only [sub, Option.some.injEq] at hu; subst hu; exact hs
      | cons j b' =>
        rw [List.cons_prefix_cons] at hb
        obtain ⟨rfl, hb⟩ := hb
        rw [sub_cons_of_kid t j b' c hc] at hu
        exact h2 b' hb u hu

/-- admission is inherited upwards: every node on the path to an admitted node is admitted -/
theorem Admitted.of_prefix {S : Tree α → Bool} {m : Option Int} {t : Tree α} {a b : Addr}
    (h : Admitted S m t a) (hb : b <+: a) : Admitted S m t b := by
  refine ⟨?_, ?_⟩
  · intro k hk
    have := h.1 k hk
    have := hb.length_le
    omega
  · intro c hc u hu
    exact h.2 c (hc.trans hb) u hu

theorem Admitted.of_lower {S : Tree α → Bool} {m : Option Int} {t : Tree α} {a : Addr}
    (h : Admitted S (lower m) t a) : Admitted S m t a :=
  ⟨fun k hk => by have := h.1 (k - 1) (by simp [lower, hk]); omega, h.2⟩

/-- the order on level bounds: `none` (no bound) is the top -/
def LevelLe (m m' : Option Int) : Prop := ∀ k', m' = some k' → ∃ k, m = some k ∧ k ≤ k'

/-- admission is antitone in `stop` and monotone in `maxlevel` -/
theorem Admitted.mono {S S' : Tree α → Bool} {m m' : Option Int} {t : Tree α} {a : Addr}
    (hS : ∀ x, S' x = true → S x = true) (hm : LevelLe m m') (h : Admitted S m t a) :
    Admitted S' m' t a := by
  refine ⟨fun k' hk' => ?_, fun b hb u hu => ?_⟩
  · obtain ⟨k, hk, hle⟩ := hm k' hk'
    exact Int.lt_of_lt_of_le (h.1 k hk) hle
  · cases hs : S' u with
    | false => rfl
    | true => exact absurd ((h.2 b hb u hu).symm.trans (hS u hs)) Bool.false_ne_true

/-- the admitted nodes at the addresses `l`, in the order of `l` -/
def readOut (S : Tree α → Bool) (m : Option Int) (t : Tree α) (l : List Addr) : List (Tree α) :=
  (l.filter (admittedB S m t)).filterMap (sub t)

theorem readOut_mono {S S' : Tree α → Bool} {m m' : Option Int} (hS : ∀ x, S' x = true → S x = true)
    (hm : LevelLe m m') (t : Tree α) (l : List Addr) :
    (readOut S m t l).Sublist (readOut S' m' t l) :=
  .filterMap _ (filter_sublist_filter (fun _ ha =>
    (admittedB_iff ..).mpr (((admittedB_iff ..).mp ha).mono hS hm)) l)

variable (S : Tree α → Bool) (m : Option Int) (t : Tree α)

theorem readOut_append (l l' : List Addr) :
    readOut S m t (l ++ l') = readOut S m t l ++ readOut S m t l' := by
  simp [readOut]

theorem readOut_flatMap {β : Type} (f : β → List Addr) (xs : List β) :
    readOut S m t (xs.flatMap f) = xs.flatMap fun x => readOut S m t (f x) := by
  simp [readOut, List.filter_flatMap, List.filterMap_flatMap]

theorem readOut_root (hc : cut m = false) (hs : S t = false) (l : List Addr) :
    readOut S m t ([] :: l) = t :: readOut S m t l := by
  have : admittedB S m t [] = true := (admittedB_iff ..).mpr ((admitted_nil ..).mpr ⟨hc, hs⟩)
  simp [readOut, this, sub]

theorem readOut_dead (hno : ¬ (cut m = false ∧ S t = false)) (l : List Addr) :
    readOut S m t l = [] := by
  have : l.filter (admittedB S m t) = [] := List.filter_eq_nil_iff.mpr fun a _ ha =>
    have hA := (admittedB_iff ..).mp ha
    hno ⟨hA.not_cut, hA.not_stop_start⟩
  simp [readOut, this]

theorem readOut_map_cons (hs : S t = false) {i : Nat} {c : Tree α} (hc : t.kids[i]? = some c)
    (l : List Addr) : readOut S m t (l.map (i :: ·)) = readOut S (lower m) c l := by
  have hP : (admittedB S m t ∘ fun a => i :: a) = admittedB S (lower m) c := by
    funext a
    rw [Function.comp_apply, Bool.eq_iff_iff, admittedB_iff, admittedB_iff, admitted_cons S m t i a c hc]
    simp [hs]
  have hg : (sub t ∘ fun a => i :: a) = sub c := funext fun a => sub_cons_of_kid t i a c hc
  simp only [readOut, List.filter_map, List.filterMap_map, hP, hg]

/-- over the children of the address tree, a traversal `τ` of positions that commutes with
relabelling reads out what it reads out below each child -/
theorem readOut_kids (τ : Tree Addr → List Addr)
    (hτ : ∀ (f : Addr → Addr) (T : Tree Addr), τ (map f T) = (τ T).map f)
    (a : α) (cs : List (Tree α)) (hs : S (node a cs) = false) :
    readOut S m (node a cs) ((addrTree (node a cs)).kids.flatMap τ) =
      cs.flatMap fun c => readOut S (lower m) c (τ (addrTree c)) := by
  rw [addrTree_node, kids_node, readOut_flatMap]
  exact flatMap_mapIdx cs fun i c hi => by rw [hτ, readOut_map_cons S m _ hs hi]

def optAtDepth (k : Nat) : Option (Tree β) → List β
  | none => []
  | some t => atDepth k t

theorem optAtDepth_eq (k : Nat) (o : Option (Tree β)) :
    optAtDepth k o = o.toList.flatMap (atDepth k) := by
  cases o <;> simp [optAtDepth]

theorem optPre_admitT (S : Tree α → Bool) : ∀ (t : Tree α) (m : Option Int),
    optPre (admitT S m t) = readOut S m t (pre (addrTree t)) := by
  refine induction_on fun a cs ih m => ?_
  by_cases hok : cut m = false ∧ S (node a cs) = false
  · rw [admitT_of_ok S m _ hok.1 hok.2, optPre, pre_eq_cons, pre_eq_cons (addrTree _), label_addrTree,
      readOut_root S m _ hok.1 hok.2, readOut_kids S m pre (fun f T => pre_map f T) a cs hok.2]
    simp only [kids_node, label_node, admitL_eq S, List.flatMap_assoc, ← optPre_eq]
    rw [flatMap_congr fun c hc => ih c hc (lower m)]
  · rw [admitT_none_of_not_ok S m _ hok, readOut_dead S m _ hok]; rfl

theorem optPost_admitT (S : Tree α → Bool) : ∀ (t : Tree α) (m : Option Int),
    optPost (admitT S m t) = readOut S m t (post (addrTree t)) := by
  refine induction_on fun a cs ih m => ?_
  by_cases hok : cut m = false ∧ S (node a cs) = false
  · rw [admitT_of_ok S m _ hok.1 hok.2, optPost, post_eq_append, post_eq_append (addrTree _), label_addrTree,
      readOut_append, readOut_root S m _ hok.1 hok.2,
      readOut_kids S m post (fun f T => post_map f T) a cs hok.2]
    simp only [kids_node, label_node, admitL_eq S, List.flatMap_assoc, ← optPost_eq]
    rw [flatMap_congr fun c hc => ih c hc (lower m)]; rfl
  · rw [admitT_none_of_not_ok S m _ hok, readOut_dead S m _ hok]; rfl

theorem optAtDepth_admitT (S : Tree α → Bool) (t : Tree α) : ∀ (k : Nat) (m : Option Int),
    optAtDepth k (admitT S m t) = readOut S m t (atDepth k (addrTree t)) := by
  induction t using induction_on with
  | h a cs ih =>
    intro k m
    by_cases hok : cut m = false ∧ S (node a cs) = false
    · rw [admitT_of_ok S m _ hok.1 hok.2, optAtDepth]
      cases k with
      | zero => rw [atDepth_zero, atDepth_zero, label_addrTree, readOut_root S m _ hok.1 hok.2]; rfl
      | succ k =>
        rw [atDepth_succ, atDepth_succ,
          readOut_kids S m (atDepth k) (fun f T => atDepth_map f k T) a cs hok.2]
        simp only [kids_node, admitL_eq S, List.flatMap_assoc, ← optAtDepth_eq]
        exact flatMap_congr fun c hc => ih c hc k (lower m)
    · rw [admitT_none_of_not_ok S m _ hok, readOut_dead S m _ hok]; rfl

end Spec
end Anytree
