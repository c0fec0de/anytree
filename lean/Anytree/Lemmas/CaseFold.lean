import Anytree.Model.Str
/-!
# `str.upper()` versus `re.IGNORECASE`

`Resolver.__cmp` (used by `get`) compares `name.upper() == pat.upper()`; `Resolver.__match` (used by
`glob`) matches the escaped pattern under `re.IGNORECASE`.  On ASCII, and on most letters, the two
tests coincide; on the KELVIN, ANGSTROM and OHM signs they do not.  This file states the agreement
as a predicate on the characters in play and proves it for the regular part of the model's alphabet.
-/
namespace Anytree
namespace CaseFold
open Str

/-- `str.upper()` and `re.IGNORECASE` induce the same equivalence on the characters satisfying `P`:
their upper case is one character long, and two of them have the same upper case iff they fold to
the same character under `re.IGNORECASE` -/
def CaseRegular (P : Char → Prop) : Prop :=
  (∀ x, P x → upperStr x = [upperChar x]) ∧
  ∀ x y, P x → P y → (reKey x = reKey y ↔ upperChar x = upperChar y)

theorem CaseRegular.mono {P Q : Char → Prop} (h : CaseRegular Q) (hpq : ∀ x, P x → Q x) :
    CaseRegular P :=
  ⟨fun x hx => h.1 x (hpq x hx), fun x y hx hy => h.2 x y (hpq x hx) (hpq y hy)⟩

theorem flatMap_upperStr {P : Char → Prop} (hP : CaseRegular P) : ∀ (l : List Char),
    (∀ x ∈ l, P x) → l.flatMap upperStr = l.map upperChar := by
  intro l
  induction l with
  | nil => intro _; rfl
  | cons a as ih =>
    intro h
    rw [List.flatMap_cons, List.map_cons, hP.1 a (h a (List.mem_cons_self ..)),
      ih (fun x hx => h x (List.mem_cons_of_mem _ hx))]
    rfl

theorem map_agree {P : Char → Prop} (hP : CaseRegular P) (l1 l2 : List Char)
    (h1 : ∀ x ∈ l1, P x) (h2 : ∀ x ∈ l2, P x) :
    (l1.map reKey = l2.map reKey ↔ l1.flatMap upperStr = l2.flatMap upperStr) := by
  rw [flatMap_upperStr hP l1 h1, flatMap_upperStr hP l2 h2]
  induction l1 generalizing l2 with
  | nil => cases l2 <;> simp
  | cons a as ih =>
    cases l2 with
    | nil => simp
    | cons b bs =>
      have hab := hP.2 a b (h1 a (List.mem_cons_self ..)) (h2 b (List.mem_cons_self ..))
      have ih' := ih bs (fun x hx => h1 x (List.mem_cons_of_mem _ hx))
        (fun x hx => h2 x (List.mem_cons_of_mem _ hx))
      simp only [List.map_cons, List.cons.injEq]
      rw [hab, ih']

def asciiChars : List Char := (List.range 128).map Char.ofNat

theorem mem_asciiChars (c : Char) (h : c.toNat < 128) : c ∈ asciiChars := by
  rw [asciiChars, List.mem_map]
  exact ⟨c.toNat, List.mem_range.2 h, Char.ofNat_toNat c⟩

/-- ASCII plus the letters of `caseTable` other than the three signs -/
def regularAlphabet : List Char :=
  asciiChars ++ ['\u017f', '\u0131', '\u00b5', '\u03bc', '\u039c', '\u00e5', '\u00c5', '\u00e9', '\u00c9', '\u03c9', '\u03a9']

/-- the whole alphabet of the model -/
def alphabet : List Char :=
  regularAlphabet ++ ['\u212a', '\u212b', '\u2126', '\u00df', '\u1e9e', '\ufb01']

/-! The tables below are checked entry by entry by the kernel.  `List.lookup` is slow there (about as
much per table row as everything else per character), and 128 of the 145 characters are ASCII and
miss both tables; so the sweeps run on `lookupHigh`, which skips the table for them. -/

def lookupHigh {β : Type} (t : List (Char × β)) (c : Char) : Option β :=
  if c.toNat < 128 then none else t.lookup c

theorem lookup_eq_lookupHigh {β : Type} {t : List (Char × β)} (hk : ∀ p ∈ t, 128 ≤ p.1.toNat)
    (c : Char) : t.lookup c = lookupHigh t c := by
  unfold lookupHigh
  split
  · exact List.lookup_eq_none_iff.2 fun p hp => bne_iff_ne.2 fun e => by
      have := hk p hp; rw [← e] at this; omega
  · rfl

theorem lookup_caseTable : ∀ c, caseTable.lookup c = lookupHigh caseTable c :=
  lookup_eq_lookupHigh (by decide)

theorem lookup_multiUpper : ∀ c, multiUpper.lookup c = lookupHigh multiUpper c :=
  lookup_eq_lookupHigh (by decide)

/-- on the regular alphabet each folding factors through the other, so they have the same fibres -/
theorem regularAlphabet_factor : ∀ x ∈ regularAlphabet,
    upperChar (reKey x) = upperChar x ∧ reKey (upperChar x) = reKey x := by
  simp only [upperChar, reKey, lookup_caseTable]
  decide +kernel

theorem regularAlphabet_single : ∀ x ∈ regularAlphabet, upperStr x = [upperChar x] := by
  have h : ∀ x ∈ regularAlphabet, multiUpper.lookup x = none := by
    simp only [lookup_multiUpper]
    decide +kernel
  intro x hx
  simp only [upperStr, h x hx]

/-- **`str.upper()` and `re.IGNORECASE` agree on the regular alphabet** (a finite table, checked
entry by entry by the kernel) -/
theorem caseRegular_regularAlphabet : CaseRegular (· ∈ regularAlphabet) :=
  ⟨regularAlphabet_single, fun x y hx hy =>
    have fx := regularAlphabet_factor x hx
    have fy := regularAlphabet_factor y hy
    ⟨fun h => by rw [← fx.1, h, fy.1], fun h => by rw [← fx.2, h, fy.2]⟩⟩

/-- … in particular on ASCII -/
theorem caseRegular_ascii : CaseRegular (fun c => c.toNat < 128) :=
  caseRegular_regularAlphabet.mono fun x hx =>
    List.mem_append_left _ (mem_asciiChars x hx)

/-- the three signs are where the two tests part: each is its own upper case but folds to a letter
under `re.IGNORECASE` (the first character of each line is the sign `\u212a`, `\u212b`, `\u2126`, not
the letter it looks like) -/
theorem signs_irregular :
    (reKey 'K' = reKey 'k' ∧ upperChar 'K' ≠ upperChar 'k') ∧
    (reKey 'Å' = reKey 'å' ∧ upperChar 'Å' ≠ upperChar 'å') ∧
    (reKey 'Ω' = reKey 'ω' ∧ upperChar 'Ω' ≠ upperChar 'ω') := by decide

/-- the three signs are in the alphabet, so the whole alphabet is not regular -/
theorem not_caseRegular_alphabet : ¬ CaseRegular (· ∈ alphabet) := by
  intro h
  have := h.2 '\u212a' 'k' (List.mem_append_right _ (by decide))
    (List.mem_append_left _ (List.mem_append_left _ (mem_asciiChars 'k' (by decide))))
  exact signs_irregular.1.2 (this.mp signs_irregular.1.1)

/-- `ß` and `ﬁ` have a two-character upper case (`SS`, `FI`): under `str.upper()` the strings `ß` and
`ss` are equal, under `re.IGNORECASE` `ß` matches only `ß` and `ẞ` -/
theorem sharp_s_irregular :
    upperStr '\u00df' = ['S', 'S'] ∧ upperStr '\ufb01' = ['F', 'I'] ∧
    reKey '\u1e9e' = reKey '\u00df' ∧ upperStr '\u1e9e' ≠ upperStr '\u00df' ∧
    reKey '\u00df' ≠ reKey 's' := by decide

/-- the representative `reKey` picks for a class is in that class: folding twice is folding once -/
theorem reKey_idem : ∀ x ∈ alphabet, reKey (reKey x) = reKey x := by
  simp only [reKey, lookup_caseTable]
  decide +kernel

theorem upperChar_idem : ∀ x ∈ alphabet, upperChar (upperChar x) = upperChar x := by
  simp only [upperChar, lookup_caseTable]
  decide +kernel

/-- upper-casing twice changes nothing more (also for the two-character cases): the upper case of a
character with a one-character upper case has one too, so `upperChar_idem` applies; `ß` and `ﬁ` by
inspection -/
theorem upperStr_idem : ∀ x ∈ alphabet, (upperStr x).flatMap upperStr = upperStr x := by
  have h1 : ∀ x ∈ alphabet, multiUpper.lookup x = none →
      multiUpper.lookup (upperChar x) = none := by
    simp only [upperChar, lookup_caseTable, lookup_multiUpper]
    decide +kernel
  have h2 : ∀ x ∈ alphabet, (multiUpper.lookup x).isSome = true →
      (upperStr x).flatMap upperStr = upperStr x := by
    simp only [upperStr, upperChar, lookup_caseTable, lookup_multiUpper]
    decide +kernel
  intro x hx
  cases h : multiUpper.lookup x with
  | some u => exact h2 x hx (by rw [h]; rfl)
  | none =>
    simp only [upperStr, h, List.flatMap_cons, List.flatMap_nil, List.append_nil, h1 x hx h,
      upperChar_idem x hx]

end CaseFold
end Anytree
