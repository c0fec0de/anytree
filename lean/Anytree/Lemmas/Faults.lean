import Anytree.Lemmas.Calls
/-!
The mirror's calls under an **arbitrary** fault schedule, read off their plans: what the parent
setter can raise, and in which forest; the `children` deleter and the delete phase of the `children`
setter; finding K4 (a persistently vetoed restore).

A parent assignment `x.parent = None` never runs the loop check, so nothing about the deleter relates
the fuel to the number of objects (`detachLoop_errors'` and `persistent_preAttachChildren_diverges'`
state such a bound and do not use it).
-/
namespace Anytree

/-- what the hook of kind `k` observes during `n.parent = v`: the pre-state (`_pre_detach`), the
state with `n` detached (`_post_detach`, `_pre_attach`), the final state (`_post_attach`) -/
def Spec.seenBy (s : Forest) (n : Nat) (v : Option Arg) : HookKind → Option Forest
  | .preDetach => some s
  | .postDetach | .preAttach => some (Spec.detached s n)
  | .postAttach => match v with
    | some (.node p) => some (Spec.attached (Spec.detached s n) n p)
    | _ => none
  | _ => none

theorem mem_detachPlan {s : Forest} {n : Nat} (v : Option Arg) {t : Call}
    (ht : t ∈ (detachPlan s n).calls) :
    t.node = n ∧ Spec.seenBy s n v t.kind = some t.f ∧
    (t.kind = .preDetach ∨ t.kind = .postDetach) := by
  unfold detachPlan at ht
  split at ht
  · cases ht
  · simp only [List.mem_cons, List.not_mem_nil, or_false] at ht
    rcases ht with rfl | rfl
    · exact ⟨rfl, rfl, .inl rfl⟩
    · exact ⟨rfl, rfl, .inr rfl⟩

theorem setParentPlan_calls (fl : Flavor) (s : Forest) (fuel n : Nat) (v : Option Arg) :
    (∀ t ∈ (setParentPlan fl s fuel n v).calls, t.node = n ∧ Spec.seenBy s n v t.kind = some t.f) ∧
    ∀ e, (setParentPlan fl s fuel n v).res = .error e → (setParentPlan fl s fuel n v).final = s := by
  have hs := setParentPlan_shape fl s fuel n v
  generalize setParentPlan fl s fuel n v = P at hs
  cases hs with
  | nonNode | same _ | loop _ _ | dry _ _ =>
    exact ⟨fun _ ht => absurd ht List.not_mem_nil, fun _ _ => rfl⟩
  | detach =>
    exact ⟨fun _ ht => have hm := mem_detachPlan none ht; ⟨hm.1, hm.2.1⟩,
      fun e he => by rw [(detachPlan_spec s n).res] at he; cases he⟩
  | @move p _ _ =>
    rw [movePlan, Plan.append_ok (detachPlan_spec s n).res]
    refine ⟨fun t ht => ?_, fun e he => by cases he⟩
    rcases List.mem_append.1 ht with ht | ht
    · have hm := mem_detachPlan (some (.node p)) ht
      exact ⟨hm.1, hm.2.1⟩
    · simp only [attachPlan, List.mem_cons, List.not_mem_nil, or_false] at ht
      rcases ht with rfl | rfl <;> exact ⟨rfl, rfl⟩

theorem setParent_err (c : Cfg) (fuel n : Nat) (v : Option Arg) (w : World) (h : Inv w.f) {e : Err}
    (he : (setParent c fuel n v w).1 = .error e) :
    (e.isRefusal ∧ (setParent c fuel n v w).2.f = w.f) ∨
    ∃ i k, e = .hook i k n ∧ Spec.seenBy w.f n v k = some (setParent c fuel n v w).2.f := by
  rw [IsPlan.setParent c fuel n v h w rfl] at he ⊢
  obtain ⟨hc, hf⟩ := setParentPlan_calls c.fl w.f fuel n v
  rcases Plan.run_err he with ⟨hr, hfin⟩ | ⟨t, ht, i, rfl, _, _, _, hfin⟩
  · exact Or.inl ⟨setParentPlan_refuses _ _ _ _ _ _ hr, hfin.trans (hf e hr)⟩
  · exact Or.inr ⟨i, t.kind, by rw [(hc t ht).1], hfin ▸ (hc t ht).2⟩

/-- a hook exception out of `n.parent = v` is one of `n`'s own hooks, and the forest left behind is the one
that hook observes (`Spec.seenBy`) -/
theorem setParent_hook_state (c : Cfg) (fuel n : Nat) (v : Option Arg) (s : Forest) (h : Inv s)
    {i : Nat} {k : HookKind} {m : Nat}
    (he : (exec c fuel (.setParent n v) s).res = .error (.hook i k m)) :
    m = n ∧ Spec.seenBy s n v k = some (exec c fuel (.setParent n v) s).f := by
  rcases setParent_err c fuel n v ⟨s, [], 0⟩ h he with ⟨hr, _⟩ | ⟨_, _, e, hf⟩
  · cases hr
  · cases e; exact ⟨rfl, hf⟩

theorem setParent_ne_diverged (c : Cfg) (fuel n : Nat) (v : Option Arg) (w : World) (h : Inv w.f)
    (hv : ArgOk w.f.n v) (hfuel : w.f.n < fuel) :
    (setParent c fuel n v w).1 ≠ .error .diverged := by
  rw [IsPlan.setParent c fuel n v h w rfl]
  intro he
  rcases Plan.run_err he with ⟨hr, _⟩ | ⟨_, _, _, e, _⟩
  · exact Spec.setParent_ne_diverged c.fl w.f n v ((setParentPlan_spec h c.fl n hv hfuel).res ▸ hr)
  · cases e

/-- the calls of the detach loop over `cs` belong to elements of `cs` and are detach hooks; the
`_pre_detach` call of the `j`-th element observes the forest in which the `j` elements before it have
been detached -/
theorem mem_loop_detachPlan {t : Call} : ∀ (cs : List Nat) (s : Forest),
    t ∈ (Plan.loop detachPlan s cs).calls →
      t.node ∈ cs ∧ (t.kind = .preDetach ∨ t.kind = .postDetach) ∧
      ∀ j, t.kind = .preDetach → cs[j]? = some t.node → cs.Nodup →
        t.f = (Spec.detachAll s (cs.take j)).1 := by
  intro cs
  induction cs with
  | nil => intro _ ht; exact absurd ht List.not_mem_nil
  | cons c cs ih =>
    intro s ht
    have hfin := (detachPlan_spec s c).final
    rw [Plan.loop, Plan.append_ok (detachPlan_spec s c).res] at ht
    rcases List.mem_append.1 ht with ht | ht
    · obtain ⟨hn, hs, hk⟩ := mem_detachPlan none ht
      refine ⟨hn ▸ List.mem_cons_self, hk, fun j hk hj hnd => ?_⟩
      cases j with
      | zero => rw [hk] at hs; exact (Option.some.inj hs).symm
      | succ j => exact absurd (hn ▸ List.mem_of_getElem? hj) (List.nodup_cons.1 hnd).1
    · obtain ⟨h1, h2, h3⟩ := ih _ ht
      refine ⟨List.mem_cons_of_mem _ h1, h2, fun j hk hj hnd => ?_⟩
      cases j with
      | zero => exact absurd (Option.some.inj hj ▸ h1) (List.nodup_cons.1 hnd).1
      | succ j => exact (h3 j hk hj (List.nodup_cons.1 hnd).2).trans (by rw [hfin]; rfl)

theorem detachLoop_errors (c : Cfg) (fuel : Nat) (cs : List Nat) (w : World) (h : Inv w.f) :
    (∀ e, (forM' cs (fun ch => setParent c fuel ch none) w).1 = .error e →
      ∃ i k m, e = .hook i k m ∧ m ∈ cs ∧ (k = .preDetach ∨ k = .postDetach)) ∧
    Inv (forM' cs (fun ch => setParent c fuel ch none) w).2.f ∧
    (forM' cs (fun ch => setParent c fuel ch none) w).2.f.n = w.f.n := by
  rw [IsPlan.detachLoop c fuel cs h w rfl]
  have hI : InvSize w.f.n _ := (Plan.loop_all (S := fun _ => True) cs w.f
    (fun s x _ hs => ⟨detachPlan_all hs x, fun _ _ => trivial⟩) ⟨h, rfl⟩).1.run c w
  refine ⟨fun e he => ?_, hI.inv, hI.size⟩
  rcases Plan.run_err he with ⟨hr, _⟩ | ⟨t, ht, i, rfl, _⟩
  · rw [(loop_detachPlan_spec w.f cs).res] at hr; cases hr
  · exact ⟨i, _, _, rfl, (mem_loop_detachPlan cs w.f ht).1, (mem_loop_detachPlan cs w.f ht).2.1⟩

theorem detachLoop_errors' (c : Cfg) (fuel : Nat) (cs : List Nat) (w : World) (h : Inv w.f)
    (_hfuel : w.f.n < fuel) :
    (∀ e, (forM' cs (fun ch => setParent c fuel ch none) w).1 = .error e →
      ∃ i k m, e = .hook i k m ∧ m ∈ cs ∧ (k = .preDetach ∨ k = .postDetach)) ∧
    Inv (forM' cs (fun ch => setParent c fuel ch none) w).2.f ∧
    (forM' cs (fun ch => setParent c fuel ch none) w).2.f.n = w.f.n :=
  detachLoop_errors c fuel cs w h

theorem mem_delChildrenPlan {s : Forest} {n : Nat} {t : Call} (ht : t ∈ (delChildrenPlan s n).calls) :
    (t.kind = .preDetachChildren ∧ t.f = s) ∨ t ∈ (Plan.loop detachPlan s (s.children n)).calls ∨
    t.kind = .postDetachChildren := by
  have e1 := (loop_detachPlan_spec s (s.children n)).res
  simp only [delChildrenPlan, Plan.append, Plan.call, e1, List.cons_append, List.nil_append,
    List.mem_cons, List.mem_append, List.not_mem_nil, or_false] at ht
  rcases ht with rfl | ht | rfl
  · exact Or.inl ⟨rfl, rfl⟩
  · exact Or.inr (Or.inl ht)
  · exact Or.inr (Or.inr rfl)

/-- a raising `del n.children` raised in one of its four hooks; if it was `_pre_detach_children`
nothing has changed, and if it was the `_pre_detach` of the `j`-th child exactly the `j` children
before it have been detached (K2 is `0 < j`) -/
theorem delChildren_veto_world (c : Cfg) (fuel n : Nat) (w : World) (h : Inv w.f) (i : Nat)
    (k : HookKind) (m : Nat)
    (he : (delChildren c fuel n w).1 = .error (.hook i k m)) :
    (k = .preDetachChildren → (delChildren c fuel n w).2.f = w.f) ∧
    ∀ j, k = .preDetach → (w.f.children n)[j]? = some m →
      (delChildren c fuel n w).2.f = (Spec.detachAll w.f ((w.f.children n).take j)).1 := by
  rw [IsPlan.delChildren c fuel n h w rfl] at he ⊢
  rcases Plan.run_err he with ⟨hr, _⟩ | ⟨t, ht, _, e, _, _, _, hf⟩
  · rw [(delChildrenPlan_spec w.f n).res] at hr; cases hr
  · cases e
    rw [hf]
    rcases mem_delChildrenPlan ht with ⟨hk, hs⟩ | ht | hp
    · exact ⟨fun _ => hs, fun _ e => (by rw [hk] at e; cases e)⟩
    · obtain ⟨_, hkind, hs⟩ := mem_loop_detachPlan _ _ ht
      exact ⟨fun e => (by rw [e] at hkind; rcases hkind with e | e <;> cases e),
        fun j hk hj => hs j hk hj (h.nodup n)⟩
    · exact ⟨fun e => (by rw [hp] at e; cases e), fun _ e => (by rw [hp] at e; cases e)⟩

/-- ¬K2: the two vetoes after which nothing has changed -/
theorem delChildren_first_veto_world (c : Cfg) (fuel n : Nat) (w : World) (h : Inv w.f) (i : Nat)
    (k : HookKind) (m : Nat)
    (he : (delChildren c fuel n w).1 = .error (.hook i k m))
    (hk : k = .preDetachChildren ∨ (k = .preDetach ∧ (w.f.children n).head? = some m)) :
    (delChildren c fuel n w).2.f = w.f :=
  hk.elim (delChildren_veto_world c fuel n w h i k m he).1 fun ⟨hk, hh⟩ =>
    (delChildren_veto_world c fuel n w h i k m he).2 0 hk (List.head?_eq_getElem? ▸ hh)

/-- the fault schedule never raises in the hooks used by `del n.children` -/
structure QuietDetach (φ : Faults) : Prop where
  preDetach : ∀ i m, φ i .preDetach m = false
  postDetach : ∀ i m, φ i .postDetach m = false
  preDetachChildren : ∀ i m, φ i .preDetachChildren m = false
  postDetachChildren : ∀ i m, φ i .postDetachChildren m = false

theorem delChildren_quiet {c : Cfg} (hq : QuietDetach c.φ) (fuel n : Nat) (w : World)
    (h : Inv w.f) :
    delChildren c fuel n w =
      (.ok (), w.adv (Spec.delChildren w.f n).f (Spec.delChildren w.f n).log) := by
  have hm := delChildrenPlan_spec w.f n
  rw [IsPlan.delChildren c fuel n h w rfl, ← hm.res, ← hm.final, ← hm.log]
  rcases Plan.run_cases c (delChildrenPlan w.f n) w with hr | ⟨_, t, _, e, ht, _⟩
  · exact hr
  · rcases mem_delChildrenPlan (t := t) (by rw [e]; simp) with ⟨hk, _⟩ | hm | hk
    · rw [hk, hq.preDetachChildren] at ht; cases ht
    · rcases (mem_loop_detachPlan _ _ hm).2.1 with hk | hk
      · rw [hk, hq.preDetach] at ht; cases ht
      · rw [hk, hq.postDetach] at ht; cases ht
    · rw [hk, hq.postDetachChildren] at ht; cases ht

/-- the delete phase returns (quiet detach hooks), the `try` block is vetoed at once by
`_pre_attach_children` -/
theorem setChildrenNodes_vetoed {c : Cfg} (hq : QuietDetach c.φ)
    (hpa : ∀ i m, c.φ i .preAttachChildren m = true) (fuel n : Nat) (xs : List Nat) (w : World)
    (h : Inv w.f) :
    ∃ w2, w2.f = (Spec.delChildren w.f n).f ∧
      setChildrenNodes c (fuel + 1) n xs w =
        (setChildrenNodes c fuel n (w.f.children n) ⨾
          M.throw (.hook (w.cnt + (Spec.delChildren w.f n).log.length) .preAttachChildren n)) w2 :=
  ⟨_, rfl, setChildrenNodes_raised fuel n xs h (fun e => nomatch e) (delChildren_quiet hq fuel n w h)
    (M.seq_err (M.seq_err (M.seq_err ((IsPlan.hook .preAttachChildren n xs _ rfl).trans
      (Plan.run_head_raise (t := ⟨_, .preAttachChildren, n, xs⟩) rfl (hpa _ _))))))⟩

/-- **K4, general form.**  If `_pre_attach_children` raises at every invocation and the detach hooks
never raise, then `n.children = xs` (after its argument checks) exhausts **every** amount of fuel:
the delete phase succeeds, the `try` block is vetoed, the restore `self.children = old_children`
is the same call again, vetoed again, … .  No relation between fuel and forest size is needed:
the loop check is never reached.  When the fuel runs out the old children are gone: the forest is the
one after `del n.children` — the restore never got to re-attach anything. -/
theorem setChildrenNodes_diverges {c : Cfg} (hq : QuietDetach c.φ)
    (hpa : ∀ i m, c.φ i .preAttachChildren m = true) :
    ∀ (fuel n : Nat) (xs : List Nat) (w : World), Inv w.f →
      (setChildrenNodes c fuel n xs w).1 = .error .diverged ∧
      (fuel ≠ 0 → (setChildrenNodes c fuel n xs w).2.f = (Spec.delChildren w.f n).f) := by
  intro fuel
  induction fuel with
  | zero => intro n xs w _; exact ⟨rfl, fun h => absurd rfl h⟩
  | succ fuel ih =>
    intro n xs w h
    obtain ⟨w2, hf, e⟩ := setChildrenNodes_vetoed hq hpa fuel n xs w h
    have hD := Spec.delChildren_props h n
    obtain ⟨hdiv, hst⟩ := ih n (w.f.children n) w2 (hf ▸ hD.inv)
    rw [e, M.seq]
    cases hr : setChildrenNodes c fuel n (w.f.children n) w2 with
    | mk r w3 =>
      rw [hr] at hdiv hst
      cases hdiv
      refine ⟨rfl, fun _ => ?_⟩
      -- the restore starts from the forest without the children and, vetoed in turn, leaves it so
      cases fuel with
      | zero => cases hr; exact hf
      | succ f => rw [hst (Nat.succ_ne_zero f), Spec.delChildren_of_nil (hf ▸ hD.children_self), hf]

theorem quietDetach_of_K4 {c : Cfg} (hφ : c.φ = fun _ k _ => k == .preAttachChildren) :
    QuietDetach c.φ := by
  rw [hφ]; constructor <;> intros <;> rfl

/-- **Finding K4.**  With a `_pre_attach_children` hook that always raises (and no other fault), the
children setter (after its argument checks) never returns and never raises an ordinary exception:
for **every** fuel, every node, every new children tuple and every consistent forest the mirror
reports `diverged`.  (In Python: `RecursionError` out of `self.children = old_children`.)
The statement needs no lower bound on the fuel: the loop check is never reached. -/
theorem persistent_preAttachChildren_diverges (c : Cfg)
    (hφ : c.φ = fun _ k _ => k == .preAttachChildren) :
    ∀ (fuel n : Nat) (xs : List Nat) (w : World), Inv w.f →
      (setChildrenNodes c fuel n xs w).1 = .error .diverged :=
  fun fuel n xs w h =>
    (setChildrenNodes_diverges (quietDetach_of_K4 hφ) (by intro i m; rw [hφ]; rfl) fuel n xs w h).1

theorem persistent_preAttachChildren_diverges' (c : Cfg)
    (hφ : c.φ = fun _ k _ => k == .preAttachChildren) (fuel' : Nat) :
    ∀ (fuel n : Nat) (xs : List Nat) (w : World), Inv w.f → n < w.f.n → w.f.n < fuel' →
      (setChildrenNodes c fuel n xs w).1 = .error .diverged :=
  fun fuel n xs w h _ _ => persistent_preAttachChildren_diverges c hφ fuel n xs w h

/-- K4 at the level of a call `n.children = as` on a forest: arguments accepted by
`__check_children`, every fuel -/
theorem setChildren_persistent_preAttachChildren_diverges (c : Cfg)
    (hφ : c.φ = fun _ k _ => k == .preAttachChildren) (fuel n : Nat) (as : List Arg) (s : Forest)
    (h : Inv s) (hchk : checkChildren c.fl [] as = .ok ()) :
    (exec c fuel (.setChildren n (some as)) s).res = .error .diverged := by
  simp only [exec, Op.run, setChildren, hchk]
  exact persistent_preAttachChildren_diverges c hφ fuel n (argsToNodes as) ⟨s, [], 0⟩ h

def sK4 : Forest := ⟨2, fun x => if x = 1 then some 0 else none, fun x => if x = 0 then [1] else []⟩
def cK4 : Cfg := ⟨.nm, false, fun _ k _ => k == .preAttachChildren⟩

/-- the raised exception, if any (`Except` has no `DecidableEq`) -/
def raised : Except Err Unit → Option Err
  | .ok _ => none
  | .error e => some e

/-- **K4** (C03 fails): on `0 → [1]`, `0.children = []` with a `_pre_attach_children` hook that always raises
exhausts the fuel (`diverged`; Python: `RecursionError`) and leaves `0` without its child -/
theorem K4_witness :
    raised (exec cK4 16 (.setChildren 0 (some [])) sK4).res = some .diverged ∧
    (exec cK4 16 (.setChildren 0 (some [])) sK4).f.snap = [(none, []), (none, [])] ∧
    sK4.snap = [(none, [1]), (some 0, [])] := by decide +kernel

end Anytree
