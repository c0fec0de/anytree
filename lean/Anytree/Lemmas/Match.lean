import Anytree.Spec.Resolver
/-!
One name against one pattern: the matcher is the wildcard relation of the property, a cache lookup
gives what compiling afresh gives, and `__cmp` / a literal `__match` are equality of normal forms.
The cache invariant `Props.C08.CacheInv` is defined here, under the name it is audited by.
-/
namespace Anytree

namespace Props.C08
open Str Resolver
/-- every cached entry is what compiling its key gives -/
def CacheInv (k : Cache) : Prop := ∀ e ∈ k, e.2 = (translate e.1.1.toList, e.1.2)

/-- one lookup: same answer as without a cache, and the invariant is kept — whatever earlier calls
(by resolvers with any `ignorecase`) left in the cache, including across an eviction -/
theorem matchC_transparent (ic : Bool) (k : Cache) (name pat : String) (h : CacheInv k) :
    (matchC ic k name pat).1 = matchPure ic name pat ∧ CacheInv (matchC ic k name pat).2 := by
  unfold matchC
  cases hf : k.find? (fun e => e.1 == (pat, ic)) with
  | some e =>
    have hm := List.mem_of_find?_eq_some hf
    have hk := List.find?_some hf
    simp only [beq_iff_eq] at hk
    have he := h e hm
    simp only [hk] at he
    simp only [matchPure]
    rw [he]
    exact ⟨rfl, h⟩
  | none =>
    refine ⟨rfl, ?_⟩
    intro e he
    simp only [List.mem_append, List.mem_singleton] at he
    rcases he with he | he
    · apply h e
      split at he
      · cases he
      · exact he
    · subst he; rfl
end Props.C08

namespace GlobL
open Str Resolver Spec

theorem translate_cons (x : Char) (p : List Char) : translate (x :: p) =
    (if x = '*' then .star else if x = '?' then .any else .lit x) :: translate p := rfl

/-- soundness: the matcher's run is a derivation (induction on the pattern, inner induction on the
name for `*`) -/
theorem wmatch_of_match (ic : Bool) : ∀ (pat name : List Char),
    matchToks ic (translate pat) name = true → WMatch ic pat name := by
  intro pat
  induction pat with
  | nil => intro name h; cases name with
    | nil => exact .nil
    | cons _ _ => cases h
  | cons x p ih =>
    intro name h
    rw [translate_cons] at h
    by_cases h1 : x = '*'
    · subst h1
      rw [if_pos rfl, matchToks] at h
      induction name with
      | nil => exact .star_skip (ih _ h)
      | cons c cs ihn =>
        rw [matchStar, Bool.or_eq_true] at h
        exact h.elim (fun h => .star_skip (ih _ h)) (fun h => .star_take (ihn h))
    · rw [if_neg h1] at h
      by_cases h2 : x = '?'
      · subst h2
        rw [if_pos rfl] at h
        cases name with
        | nil => cases h
        | cons c cs => exact .any (ih _ h)
      · rw [if_neg h2] at h
        cases name with
        | nil => cases h
        | cons c cs =>
          rw [matchToks, Bool.and_eq_true] at h
          exact .lit h1 h2 h.1 (ih _ h.2)

/-- completeness: induction on the derivation -/
theorem match_of_wmatch (ic : Bool) {pat name : List Char} (h : WMatch ic pat name) :
    matchToks ic (translate pat) name = true := by
  induction h with
  | nil => rfl
  | @star_skip p n _ ih =>
    show matchStar (matchToks ic (translate p)) n = true
    cases n <;> simp [matchStar, ih]
  | @star_take p c n _ ih =>
    show matchStar (matchToks ic (translate p)) (c :: n) = true
    rw [matchStar, Bool.or_eq_true]; exact .inr ih
  | any _ ih => exact ih
  | @lit x p c n h1 h2 he _ ih =>
    rw [translate_cons, if_neg h1, if_neg h2, matchToks, he, ih]; rfl

theorem match_iff_WMatch (ic : Bool) (pat name : List Char) :
    matchToks ic (translate pat) name = true ↔ WMatch ic pat name :=
  ⟨wmatch_of_match ic pat name, match_of_wmatch ic⟩

/-! `__cmp` compares the images under `norm`, a literal `__match` the images under `normRe`: both
relations are kernels of a function, hence equivalences, and `CaseRegular` says the two kernels agree. -/

theorem translate_literal (p : List Char) (h : p.any (fun c => c == '?' || c == '*') = false) :
    translate p = p.map .lit := by
  induction p with
  | nil => rfl
  | cons x xs ih =>
    simp only [List.any_cons, Bool.or_eq_false_iff, beq_eq_false_iff_ne] at h
    have := ih h.2
    simp only [translate, List.map_cons] at this ⊢
    rw [this]
    simp [h.1.1, h.1.2]

/-- the normal form `__cmp` compares (`str.upper()`) -/
def norm (ic : Bool) (l : List Char) : List Char := if ic then l.flatMap upperStr else l

/-- the normal form `__match` compares on a literal pattern (`re.IGNORECASE`) -/
def normRe (ic : Bool) (l : List Char) : List Char := if ic then l.map reKey else l

theorem cmp_iff_norm (ic : Bool) (s t : String) :
    cmp ic s t = true ↔ norm ic s.toList = norm ic t.toList := by
  unfold cmp norm
  cases ic with
  | true => simp only [if_true, beq_iff_eq]; unfold upper; exact String.ofList_inj
  | false => simp only [Bool.false_eq_true, if_false, beq_iff_eq]; exact String.toList_inj.symm

theorem matchToks_literal_iff (ic : Bool) (p : List Char) : ∀ n : List Char,
    matchToks ic (p.map .lit) n = true ↔ normRe ic n = normRe ic p := by
  induction p with
  | nil => intro n; cases n <;> cases ic <;> simp [matchToks, normRe]
  | cons x xs ih =>
    intro n
    cases n with
    | nil => cases ic <;> simp [matchToks, normRe]
    | cons y ys =>
      rw [List.map_cons, matchToks, Bool.and_eq_true, ih]
      -- `eqChar` compares pattern with name, the normal forms name with pattern
      cases ic
      · simp only [normRe, eqChar, Bool.false_eq_true, if_false, List.cons.injEq, beq_iff_eq]
        exact and_congr_left' eq_comm
      · simp only [normRe, eqChar, if_true, List.map_cons, List.cons.injEq, beq_iff_eq]
        exact and_congr_left' eq_comm

theorem matchPure_literal_iff (ic : Bool) (name pat : String) (hw : isWildcard pat = false) :
    matchPure ic name pat = true ↔ normRe ic name.toList = normRe ic pat.toList := by
  rw [matchPure, translate_literal _ hw]; exact matchToks_literal_iff ic _ _

theorem normRe_eq_iff_norm {P : Char → Prop} (ic : Bool) (hP : ic = true → CaseFold.CaseRegular P)
    (l1 l2 : List Char) (h1 : ∀ x ∈ l1, P x) (h2 : ∀ x ∈ l2, P x) :
    normRe ic l1 = normRe ic l2 ↔ norm ic l1 = norm ic l2 := by
  unfold normRe norm
  cases ic with
  | true => simp only [if_true]; exact CaseFold.map_agree (hP rfl) l1 l2 h1 h2
  | false => simp

end GlobL
end Anytree
