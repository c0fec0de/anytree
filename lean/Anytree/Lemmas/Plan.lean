import Anytree.Lemmas.Forest
/-!
A *plan* is a list of hook invocations, each with the forest it observes, then a final forest and a
result; from a consistent forest every structural call is one (`Lemmas/Calls.lean`).  Running a plan under a fault schedule
stops at the first scheduled hook, in the forest that hook observes (`Plan.run_cases`).
`IsPlan c a s P` says that from the forest `s` the code `a` is the plan `P`, with one rule per
combinator of `M`; what the properties ask of a call under faults is read off its plan.
`P.Matches res final log` ties a plan to a closed-form specification; on a window of invocation numbers
that is quiet for as long as the log, the code returns exactly that (`IsPlan.window`).
-/
namespace Anytree

def World.adv (w : World) (f : Forest) (evs : List Event) : World :=
  ⟨f, w.log ++ evs, w.cnt + evs.length⟩

theorem World.adv_nil (w : World) : w.adv w.f [] = w := by
  cases w; simp [World.adv]

theorem World.adv_adv (w : World) (f g : Forest) (a b : List Event) :
    (w.adv f a).adv g b = w.adv g (a ++ b) := by
  simp [World.adv, Nat.add_assoc]

@[simp] theorem World.adv_f (w : World) (f : Forest) (evs : List Event) : (w.adv f evs).f = f := rfl
@[simp] theorem World.adv_log (w : World) (f : Forest) (evs : List Event) :
    (w.adv f evs).log = w.log ++ evs := rfl
@[simp] theorem World.adv_cnt (w : World) (f : Forest) (evs : List Event) :
    (w.adv f evs).cnt = w.cnt + evs.length := rfl

/-- no hook invocation numbered `lo ≤ i < hi` raises -/
def Quiet (c : Cfg) (lo hi : Nat) : Prop := ∀ i k m, lo ≤ i → i < hi → c.φ i k m = false

theorem Quiet.mono {c : Cfg} {lo hi lo' hi' : Nat} (h : Quiet c lo hi) (h1 : lo ≤ lo')
    (h2 : hi' ≤ hi) : Quiet c lo' hi' :=
  fun i k m a b => h i k m (Nat.le_trans h1 a) (Nat.lt_of_lt_of_le b h2)

/-- no hook invocation numbered `B` or later raises: `B` bounds the schedule.  (`exec` starts every
call at counter 0, so one bound serves every call of a history.) -/
def QuietFrom (c : Cfg) (B : Nat) : Prop := ∀ i k m, B ≤ i → c.φ i k m = false

theorem QuietFrom.quiet {c : Cfg} {B : Nat} (h : QuietFrom c B) (hi : Nat) : Quiet c B hi :=
  fun i k m a _ => h i k m a

theorem QuietFrom.of_noFaults {c : Cfg} (hφ : c.φ = noFaults) (B : Nat) : QuietFrom c B :=
  fun _ _ _ _ => by rw [hφ]; rfl

theorem Quiet.of_noFaults {c : Cfg} (hφ : c.φ = noFaults) (lo hi : Nat) : Quiet c lo hi :=
  (QuietFrom.of_noFaults hφ lo).quiet hi

/-- a planned hook invocation: the forest it observes, and the arguments of `hook` -/
structure Call where
  f : Forest
  kind : HookKind
  node : Nat
  arg : List Nat

def Call.ev (s : Call) : Event := Spec.ev s.kind s.node s.arg s.f

/-- the hook invocations a call makes if none raises, in order; the forest it then ends in; and its
result, which is an error only for a refusal by the call itself -/
structure Plan where
  calls : List Call
  final : Forest
  res : Except Err Unit := .ok ()

namespace Plan

def log (P : Plan) : List Event := P.calls.map Call.ev

/-- a refusal: no hook is called, nothing changes -/
def refuse (s : Forest) (e : Err) : Plan := ⟨[], s, .error e⟩
def skip (s : Forest) : Plan := ⟨[], s, .ok ()⟩
def call (s : Forest) (k : HookKind) (n : Nat) (a : List Nat) : Plan := ⟨[⟨s, k, n, a⟩], s, .ok ()⟩

@[simp] theorem call_final (s : Forest) (k : HookKind) (n : Nat) (a : List Nat) :
    (call s k n a).final = s := rfl

/-- `Q` after `P`, if `P` ends well -/
def append (P Q : Plan) : Plan :=
  match P.res with
  | .ok _ => ⟨P.calls ++ Q.calls, Q.final, Q.res⟩
  | .error _ => P

theorem append_ok {P : Plan} (h : P.res = .ok ()) (Q : Plan) :
    P.append Q = ⟨P.calls ++ Q.calls, Q.final, Q.res⟩ := by
  simp [append, h]

theorem append_res_ok {P Q : Plan} (h : (P.append Q).res = .ok ()) :
    P.res = .ok () ∧ Q.res = .ok () := by
  unfold Plan.append at h
  split at h
  · exact ⟨by assumption, h⟩
  · rename_i e he; rw [he] at h; cases h

/-- the plan ends with `res` in `final`, and `log` is what its invocations record -/
structure Matches (P : Plan) (res : Except Err Unit) (final : Forest) (log : List Event) : Prop where
  res : P.res = res
  final : P.final = final
  log : P.log = log

namespace Matches
variable {P Q : Plan} {r : Except Err Unit} {f g : Forest} {l m : List Event}

theorem skip (s : Forest) : (Plan.skip s).Matches (.ok ()) s [] := ⟨rfl, rfl, rfl⟩
theorem call (s : Forest) (k : HookKind) (n : Nat) (a : List Nat) :
    (Plan.call s k n a).Matches (.ok ()) s [Spec.ev k n a s] := ⟨rfl, rfl, rfl⟩

theorem append (hP : P.Matches (.ok ()) f l) (hQ : Q.Matches r g m) :
    (P.append Q).Matches r g (l ++ m) :=
  append_ok hP.res Q ▸ ⟨hQ.res, hQ.final, by rw [← hP.log, ← hQ.log]; exact List.map_append⟩

end Matches

/-- the plans `P s x` for `x` in a list, each from the final forest of the one before -/
def loop (P : Forest → Nat → Plan) : Forest → List Nat → Plan
  | s, [] => skip s
  | s, x :: xs => (P s x).append (loop P (P s x).final xs)

/-- every forest a run of the plan can end in satisfies `G` -/
def All (G : Forest → Prop) (P : Plan) : Prop := (∀ s ∈ P.calls, G s.f) ∧ G P.final

/-- the plan refuses only with exceptions in `S` -/
def Refuses (S : Err → Prop) (P : Plan) : Prop := ∀ e, P.res = .error e → S e

/-- the invocations one after the other, each logged and counted; one that the schedule makes raise ends
the run with its hook exception, in the forest that invocation observes (`final` and `res` are not reached) -/
def runCalls (c : Cfg) (final : Forest) (res : Except Err Unit) : List Call → M
  | [] => fun w => (res, { w with f := final })
  | s :: rest => fun w =>
    if c.φ w.cnt s.kind s.node then (.error (.hook w.cnt s.kind s.node), w.adv s.f [s.ev])
    else runCalls c final res rest (w.adv s.f [s.ev])

def run (c : Cfg) (P : Plan) : M := runCalls c P.final P.res P.calls

/-- the plan is carried out, or a planned invocation that is scheduled to raise does so, in the
forest it observes -/
theorem run_cases (c : Cfg) (P : Plan) (w : World) :
    P.run c w = (P.res, w.adv P.final P.log) ∨
    ∃ pre t post, P.calls = pre ++ t :: post ∧ c.φ (w.cnt + pre.length) t.kind t.node = true ∧
      P.run c w = (.error (.hook (w.cnt + pre.length) t.kind t.node),
        w.adv t.f (pre.map Call.ev ++ [t.ev])) := by
  obtain ⟨calls, final, res⟩ := P
  simp only [run, log]
  induction calls generalizing w with
  | nil => exact Or.inl (by simp [runCalls, World.adv])
  | cons s rest ih =>
    simp only [runCalls]
    by_cases hs : c.φ w.cnt s.kind s.node = true
    · exact Or.inr ⟨[], s, rest, rfl, hs, by rw [if_pos hs]; rfl⟩
    · rw [if_neg hs]
      rcases ih (w.adv s.f [s.ev]) with hr | ⟨pre, t, post, e, ht, hr⟩
      · exact Or.inl (by rw [hr, World.adv_adv]; rfl)
      · have hc : (w.adv s.f [s.ev]).cnt + pre.length = w.cnt + (s :: pre).length := by
          simp only [World.adv_cnt, List.length_cons, List.length_nil, Nat.zero_add, Nat.add_assoc, Nat.add_comm 1]
        rw [hc] at ht hr
        exact Or.inr ⟨s :: pre, t, post, by rw [e]; rfl, ht, by rw [hr, World.adv_adv]; rfl⟩

theorem run_append (c : Cfg) (P Q : Plan) : (P.append Q).run c = P.run c ⨾ Q.run c := by
  obtain ⟨calls, final, res⟩ := P
  funext w
  cases res with
  | error e =>
    simp only [run, append, M.seq]
    induction calls generalizing w with
    | nil => rfl
    | cons s rest ih =>
      simp only [runCalls]
      split
      · rfl
      · exact ih _
  | ok u =>
    simp only [run, append, M.seq]
    induction calls generalizing w with
    | nil => cases hq : Q.calls <;> simp [runCalls, World.adv]
    | cons s rest ih =>
      simp only [List.cons_append, runCalls]
      split
      · rfl
      · exact ih _

theorem run_ok {c : Cfg} {P : Plan} {w w' : World} (h : P.run c w = (.ok (), w')) :
    P.res = .ok () ∧ w'.f = P.final := by
  rcases run_cases c P w with hr | ⟨_, _, _, _, _, hr⟩ <;> rw [hr] at h
  · exact ⟨(Prod.mk.inj h).1, (Prod.mk.inj h).2 ▸ rfl⟩
  · cases h

theorem run_quiet {c : Cfg} {P : Plan} {w : World} (hq : Quiet c w.cnt (w.cnt + P.calls.length)) :
    P.run c w = (P.res, w.adv P.final P.log) := by
  rcases run_cases c P w with hr | ⟨pre, s, post, e, hs, _⟩
  · exact hr
  · rw [hq _ _ _ (Nat.le_add_right _ _) (by rw [e]; simp)] at hs; cases hs

/-- on a window that is quiet for as long as its log, the plan is carried out -/
theorem Matches.run {c : Cfg} {P : Plan} {w : World} {r : Except Err Unit} {f : Forest} {l : List Event}
    (hm : P.Matches r f l) (hq : Quiet c w.cnt (w.cnt + l.length)) : P.run c w = (r, w.adv f l) := by
  obtain ⟨rfl, rfl, rfl⟩ := hm
  exact run_quiet (by rwa [Plan.log, List.length_map] at hq)

theorem run_head_raise {c : Cfg} {P : Plan} {t : Call} {rest : List Call} (hP : P.calls = t :: rest)
    {w : World} (hat : c.φ w.cnt t.kind t.node = true) :
    P.run c w = (.error (.hook w.cnt t.kind t.node), w.adv t.f [t.ev]) := by
  simp [run, hP, runCalls, hat]

theorem run_err {c : Cfg} {P : Plan} {w : World} {e : Err} (h : (P.run c w).1 = .error e) :
    (P.res = .error e ∧ (P.run c w).2.f = P.final) ∨
    ∃ s ∈ P.calls, ∃ i, e = .hook i s.kind s.node ∧ c.φ i s.kind s.node = true ∧ w.cnt ≤ i ∧
      (P.run c w).2.cnt = i + 1 ∧ (P.run c w).2.f = s.f := by
  rcases run_cases c P w with hr | ⟨pre, s, post, e', hs, hr⟩ <;> rw [hr] at h ⊢
  · exact Or.inl ⟨h, rfl⟩
  · exact Or.inr ⟨s, by simp [e'], _, (Except.error.inj h).symm, hs, Nat.le_add_right _ _,
      by simp [World.adv, Nat.add_assoc], rfl⟩

theorem run_cnt (c : Cfg) (P : Plan) (w : World) : w.cnt ≤ (P.run c w).2.cnt := by
  rcases run_cases c P w with hr | ⟨_, _, _, _, _, hr⟩ <;> rw [hr] <;> exact Nat.le_add_right _ _

theorem All.run {G : Forest → Prop} {P : Plan} (h : P.All G) (c : Cfg) (w : World) :
    G (P.run c w).2.f := by
  rcases run_cases c P w with hr | ⟨_, s, _, e, _, hr⟩ <;> rw [hr]
  · exact h.2
  · exact h.1 s (by simp [e])

theorem All.append {G : Forest → Prop} {P Q : Plan} (hP : P.All G) (hQ : Q.All G) :
    (P.append Q).All G := by
  unfold Plan.append
  split
  · exact ⟨fun s hs => (List.mem_append.1 hs).elim (hP.1 s) (hQ.1 s), hQ.2⟩
  · exact hP

theorem All.mono {G G' : Forest → Prop} {P : Plan} (h : P.All G) (hG : ∀ f, G f → G' f) : P.All G' :=
  ⟨fun t ht => hG _ (h.1 t ht), hG _ h.2⟩

theorem All.skip {G : Forest → Prop} {s : Forest} (h : G s) : (Plan.skip s).All G :=
  ⟨fun _ hs => absurd hs List.not_mem_nil, h⟩
theorem All.refuse {G : Forest → Prop} {s : Forest} (h : G s) (e : Err) : (Plan.refuse s e).All G :=
  All.skip h
theorem All.call {G : Forest → Prop} {s : Forest} (h : G s) (k : HookKind) (n : Nat) (a : List Nat) :
    (Plan.call s k n a).All G :=
  ⟨fun _ hs => List.mem_singleton.1 hs ▸ h, h⟩

theorem Refuses.of_ok {S : Err → Prop} {P : Plan} (h : P.res = .ok ()) : P.Refuses S :=
  fun _ he => by rw [h] at he; cases he

theorem Refuses.append {S : Err → Prop} {P Q : Plan} (hP : P.Refuses S) (hQ : Q.Refuses S) :
    (P.append Q).Refuses S := by
  unfold Plan.append
  split
  · exact hQ
  · exact hP

theorem loop_all {G : Forest → Prop} {S : Err → Prop} {P : Forest → Nat → Plan} :
    ∀ (xs : List Nat) (s : Forest), (∀ s, ∀ x ∈ xs, G s → (P s x).All G ∧ (P s x).Refuses S) → G s →
      (Plan.loop P s xs).All G ∧ (Plan.loop P s xs).Refuses S
  | [], _, _, hs => ⟨⟨fun _ h => absurd h List.not_mem_nil, hs⟩, .of_ok rfl⟩
  | x :: xs, s, hP, hs =>
    have h1 := hP s x List.mem_cons_self hs
    have h2 := loop_all xs _ (fun s y hy => hP s y (List.mem_cons_of_mem _ hy)) h1.1.2
    ⟨h1.1.append h2.1, h1.2.append h2.2⟩

end Plan

/-- from the forest `s`, the code `a` is the plan `P` -/
def IsPlan (c : Cfg) (a : M) (s : Forest) (P : Plan) : Prop := ∀ w, w.f = s → a w = P.run c w

namespace IsPlan
variable {c : Cfg} {a b : M} {s : Forest} {P Q : Plan}

theorem hook (k : HookKind) (n : Nat) (arg : List Nat) :
    IsPlan c (hook c k n arg) s (.call s k n arg) := by
  rintro w rfl
  simp only [Anytree.hook, Plan.call, Plan.run, Plan.runCalls, World.adv, Call.ev, Spec.ev]
  split <;> rfl

theorem modify (g : Forest → Forest) : IsPlan c (M.modify g) s (.skip (g s)) := by
  rintro w rfl; rfl

theorem throw (e : Err) : IsPlan c (M.throw e) s (.refuse s e) := by
  rintro ⟨_, _, _⟩ rfl; rfl

theorem ok : IsPlan c M.ok s (.skip s) := by
  rintro ⟨_, _, _⟩ rfl; rfl

theorem assert {cond : Forest → Bool} (h : cond s = true) : IsPlan c (assertM c cond) s (.skip s) := by
  rintro ⟨_, _, _⟩ rfl
  simp [assertM, h, Plan.skip, Plan.run, Plan.runCalls]

theorem seq (ha : IsPlan c a s P) (hb : IsPlan c b P.final Q) : IsPlan c (a ⨾ b) s (P.append Q) := by
  intro w hw
  rw [Plan.run_append, M.seq, M.seq, ha w hw]
  cases hr : P.run c w with
  | mk r w' =>
    cases r with
    | error e => rfl
    | ok u => exact hb w' (Plan.run_ok hr).2

/-- an assertion that holds wherever `a` returns is not noticed -/
theorem seq_assert {cond : Forest → Bool} (ha : IsPlan c a s P)
    (h : P.res = .ok () → cond P.final = true) : IsPlan c (a ⨾ assertM c cond) s P := by
  intro w hw
  rw [M.seq, ha w hw]
  cases hr : P.run c w with
  | mk r w' =>
    cases r with
    | error e => rfl
    | ok u =>
      simp [assertM, (Plan.run_ok hr).2, h (Plan.run_ok hr).1]

theorem forM' {body : Nat → M} {B : Forest → Nat → Plan} {I : Forest → Prop} :
    ∀ xs s, (∀ s, ∀ x ∈ xs, I s → IsPlan c (body x) s (B s x) ∧ I (B s x).final) → I s →
      IsPlan c (forM' xs body) s (.loop B s xs)
  | [], _, _, _ => ok
  | x :: xs, s, hb, hs =>
    ((hb s x List.mem_cons_self hs).1).seq
      (forM' xs _ (fun s y hy => hb s y (List.mem_cons_of_mem _ hy)) (hb s x List.mem_cons_self hs).2)

theorem window {w : World} {r : Except Err Unit} {f : Forest} {l : List Event} (hp : IsPlan c a w.f P)
    (hm : P.Matches r f l) (hq : Quiet c w.cnt (w.cnt + l.length)) : a w = (r, w.adv f l) :=
  (hp w rfl).trans (hm.run hq)

end IsPlan

end Anytree
