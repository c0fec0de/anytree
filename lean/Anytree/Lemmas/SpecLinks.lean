import Anytree.Lemmas.Chain
/-!
What the link updates of `Spec/Forest.lean` do to a consistent forest: `detached`, `attached` and their
composite `Spec.moved` (one parent assignment), the loops `detachAll`, `attachAll` and `delChildren`.  A
move, the attach loop (under `Spec.CanAttach`: what it needs of the elements still to come) and the
deleter are each a `Spec.Relinked`: consistent over the same objects, the chain of the node untouched, the
links in closed form.  Then how the updates commute, and how long their logs are.  The chain of any node
that avoids the changed ones is unchanged: `up_congr_avoid` (Lemmas/Forest), `Spec.up_detached_avoid`,
`Spec.up_detachAll_avoid` (Lemmas/Chain is about length and ancestry only).
-/
namespace Anytree
open Forest

theorem filter_ne_of_not_mem {l : List Nat} {x : Nat} (h : x ∉ l) : l.filter (· != x) = l :=
  List.filter_eq_self.mpr fun a ha => by
    simp only [bne_iff_ne, ne_eq]; rintro rfl; exact h ha

theorem filter_ne_filter_not_contains (l : List Nat) (c : Nat) (cs : List Nat) :
    (l.filter (· != c)).filter (fun x => !cs.contains x) = l.filter fun x => !(c :: cs).contains x := by
  rw [List.filter_filter]
  refine List.filter_congr fun x _ => ?_
  simp only [List.contains_cons, Bool.not_or, Bool.and_comm]
  cases hx : (x == c) <;> simp [hx, bne]

theorem Spec.detached_eq {s : Forest} {n q : Nat} (h : s.parent n = some q) :
    Spec.detached s n = s.detachRaw n q := by
  simp [Spec.detached, h, detachRaw, setC, setP]

theorem Spec.detached_root {s : Forest} {n : Nat} (h : s.parent n = none) :
    Spec.detached s n = s := by
  simp [Spec.detached, h]

theorem Spec.attached_eq (s : Forest) (n p : Nat) : Spec.attached s n p = s.attachRaw n p := by
  simp [Spec.attached, attachRaw, setC, setP]

@[simp] theorem Spec.attached_n (s : Forest) (n p : Nat) : (Spec.attached s n p).n = s.n := rfl

theorem Spec.attached_parent (s : Forest) (n p x : Nat) :
    (Spec.attached s n p).parent x = if x = n then some p else s.parent x := rfl

theorem Spec.attached_children (s : Forest) (n p x : Nat) :
    (Spec.attached s n p).children x = if x = p then s.children p ++ [n] else s.children x := rfl

theorem Spec.detachLog_some {s : Forest} {n q : Nat} (h : s.parent n = some q) :
    Spec.detachLog s n =
      [Spec.ev .preDetach n [q] s, Spec.ev .postDetach n [q] (s.detachRaw n q)] := by
  simp [Spec.detachLog, h, Spec.detached_eq h]

theorem Spec.detachLog_root {s : Forest} {n : Nat} (h : s.parent n = none) :
    Spec.detachLog s n = [] := by
  simp [Spec.detachLog, h]

theorem Spec.detached_n (s : Forest) (n : Nat) : (Spec.detached s n).n = s.n := by
  unfold Spec.detached; split <;> rfl

theorem Spec.inv_detached {s : Forest} (h : Inv s) (n : Nat) : Inv (Spec.detached s n) := by
  cases hp : s.parent n with
  | none => rw [Spec.detached_root hp]; exact h
  | some q => rw [Spec.detached_eq hp]; exact inv_detachRaw h hp

theorem Spec.detached_children {s : Forest} (h : Inv s) (c n : Nat) :
    (Spec.detached s c).children n = (s.children n).filter (· != c) := by
  have hnot : ∀ q, s.parent c ≠ some q → (s.children q).filter (· != c) = s.children q :=
    fun q hq => filter_ne_of_not_mem fun ha => hq ((h.bidir c q).2 ha)
  cases hp : s.parent c with
  | none => rw [Spec.detached_root hp, hnot n (by simp [hp])]
  | some q =>
    rw [Spec.detached_eq hp, detachRaw_children]
    by_cases hq : n = q
    · subst hq; simp
    · simp only [hq, if_false]
      rw [hnot n (by rw [hp]; intro e; exact hq (Option.some.inj e).symm)]

theorem Spec.detachAll_n (s : Forest) (cs : List Nat) : (Spec.detachAll s cs).1.n = s.n := by
  induction cs generalizing s with
  | nil => rfl
  | cons c cs ih => simp [Spec.detachAll, ih, Spec.detached_n]

theorem Spec.inv_detachAll {s : Forest} (h : Inv s) (cs : List Nat) : Inv (Spec.detachAll s cs).1 := by
  induction cs generalizing s with
  | nil => exact h
  | cons c cs ih => exact ih (Spec.inv_detached h c)

theorem Spec.detachAll_children {s : Forest} (h : Inv s) (cs : List Nat) (n : Nat) :
    (Spec.detachAll s cs).1.children n = (s.children n).filter (fun x => !cs.contains x) := by
  induction cs generalizing s with
  | nil =>
    simp only [Spec.detachAll, List.contains_nil, Bool.not_false]
    exact (List.filter_eq_self.mpr (fun _ _ => rfl)).symm
  | cons c cs ih =>
    simp only [Spec.detachAll]
    rw [ih (Spec.inv_detached h c), Spec.detached_children h, filter_ne_filter_not_contains]

theorem Spec.detached_parent (s : Forest) (x y : Nat) :
    (Spec.detached s x).parent y = if y = x then none else s.parent y := by
  cases hp : s.parent x with
  | none =>
    rw [Spec.detached_root hp]
    by_cases h : y = x
    · simp [h, hp]
    · simp [h]
  | some q => rw [Spec.detached_eq hp]; rfl

theorem Spec.up_detached_avoid {s : Forest} {x y : Nat} (hy : ∀ j, s.up j y ≠ some x) (k : Nat) :
    (Spec.detached s x).up k y = s.up k y :=
  up_congr_avoid (A := (· = x)) (fun z hz => (Spec.detached_parent s x z).trans (if_neg hz)) k y
    fun j _ hz e => hy j (e ▸ hz)

/-- the links after `x.parent = n` (from a state in which that is a genuine, loop-free move) -/
def Spec.moved (s : Forest) (x n : Nat) : Forest := Spec.attached (Spec.detached s x) x n

/-- a move, from the outcome of the setter's own tests: another parent, not `n` itself, no descendant of `n` -/
theorem Spec.setParent_move (fl : Flavor) {s : Forest} {n p : Nat} (hne : s.parent n ≠ some p)
    (hpn : p ≠ n) (hanc : Spec.isAnc s n p = false) :
    Spec.setParent fl s n (some (.node p)) =
      ⟨.ok (), Spec.moved s n p, Spec.detachLog s n ++ Spec.attachLog (Spec.detached s n) n p⟩ := by
  simp [Spec.setParent, hne, hpn, hanc, Spec.moved]

/-- the same conclusion from the result: the assignment of another parent was accepted -/
theorem Spec.setParent_of_ok {fl : Flavor} {s : Forest} {n p : Nat}
    (hok : (Spec.setParent fl s n (some (.node p))).res = .ok ()) (hne : s.parent n ≠ some p) :
    Spec.setParent fl s n (some (.node p)) =
      ⟨.ok (), Spec.moved s n p, Spec.detachLog s n ++ Spec.attachLog (Spec.detached s n) n p⟩ := by
  by_cases hpn : p = n
  · subst hpn; simp [Spec.setParent, hne] at hok
  · cases ha : Spec.isAnc s n p with
    | false => exact Spec.setParent_move fl hne hpn ha
    | true => simp [Spec.setParent, hne, ha] at hok

theorem Spec.setParent_ne_diverged (fl : Flavor) (s : Forest) (n : Nat) (v : Option Arg) :
    (Spec.setParent fl s n v).res ≠ .error .diverged := by
  unfold Spec.setParent
  repeat' split
  all_goals exact fun h => nomatch h

theorem Spec.attachAll_cons (s : Forest) (n x : Nat) (xs : List Nat) :
    Spec.attachAll s n (x :: xs) =
      ((Spec.attachAll (Spec.moved s x n) n xs).1,
        Spec.detachLog s x ++ Spec.attachLog (Spec.detached s x) x n ++
          (Spec.attachAll (Spec.moved s x n) n xs).2) := rfl

/-- `t` is `s` with the children of `n` replaced by `kids`: consistent over the same objects, the chain
of `n` untouched, every parent given by `par`, every other children list by `oth` -/
structure Spec.Relinked (s t : Forest) (n : Nat) (kids : List Nat) (par : Nat → Option Nat)
    (oth : Nat → List Nat) : Prop where
  inv : Inv t
  size : t.n = s.n
  children_self : t.children n = kids
  chain : ∀ j, t.up j n = s.up j n
  parent : ∀ y, t.parent y = par y
  children_other : ∀ q, q ≠ n → t.children q = oth q

theorem Spec.moved_n (s : Forest) (x n : Nat) : (Spec.moved s x n).n = s.n := Spec.detached_n s x

theorem Spec.moved_parent (s : Forest) (x n y : Nat) :
    (Spec.moved s x n).parent y = if y = x then some n else s.parent y := by
  rw [Spec.moved, Spec.attached_parent, Spec.detached_parent]
  split <;> rfl

theorem Spec.moved_children {s : Forest} (h : Inv s) (x n q : Nat) :
    (Spec.moved s x n).children q =
      if q = n then (s.children n).filter (· != x) ++ [x] else (s.children q).filter (· != x) := by
  rw [Spec.moved, Spec.attached_children, Spec.detached_children h, Spec.detached_children h]

theorem Spec.moved_props {s : Forest} (h : Inv s) {x n : Nat} (hx : x < s.n) (hn : n < s.n)
    (hnot : x ∉ s.children n) (hch : ∀ j, s.up j n ≠ some x) :
    Spec.Relinked s (Spec.moved s x n) n (s.children n ++ [x])
      (fun y => if y = x then some n else s.parent y) fun q => (s.children q).filter (· != x) := by
  have h1 : Inv (Spec.detached s x) := Spec.inv_detached h x
  have hup1 : ∀ j, (Spec.detached s x).up j n = s.up j n := Spec.up_detached_avoid hch
  have hroot : (Spec.detached s x).parent x = none := by rw [Spec.detached_parent]; simp
  have hn1 : (Spec.detached s x).n = s.n := Spec.detached_n s x
  have hloop : ∀ j, (Spec.detached s x).up j n ≠ some x := by intro j; rw [hup1]; exact hch j
  refine ⟨?_, Spec.moved_n s x n, ?_, fun j => ?_, Spec.moved_parent s x n, fun q hq => ?_⟩
  · rw [Spec.moved, Spec.attached_eq]
    exact inv_attachRaw h1 hroot hloop (hn1.symm ▸ hx) (hn1.symm ▸ hn)
  · rw [Spec.moved_children h, if_pos rfl, filter_ne_of_not_mem hnot]
  · rw [Spec.moved, Spec.attached_eq, up_attachRaw_avoid j n hloop, hup1]
  · rw [Spec.moved_children h, if_neg hq]

/-- the conclusion of `Spec.setParent_move` from hypotheses in the words of the attach loop (`Spec.CanAttach`,
below): `x` is no child of `n` yet and not on the chain of `n` -/
theorem Spec.setParent_step {s : Forest} (h : Inv s) (fl : Flavor) {x n : Nat} (hn : n < s.n)
    (hnot : x ∉ s.children n) (hch : ∀ j, s.up j n ≠ some x) :
    Spec.setParent fl s x (some (.node n)) =
      ⟨.ok (), Spec.moved s x n,
        Spec.detachLog s x ++ Spec.attachLog (Spec.detached s x) x n⟩ := by
  have hne : s.parent x ≠ some n := fun e => hnot ((h.bidir x n).1 e)
  obtain ⟨hxn, hanc⟩ := (h.chain_avoid_iff hn).1 hch
  exact Spec.setParent_move fl hne hxn.symm hanc

/-- the nodes `xs` can be moved under `n` one after the other -/
structure Spec.CanAttach (s : Forest) (n : Nat) (xs : List Nat) : Prop where
  inv : Inv s
  node : n < s.n
  nodup : xs.Nodup
  lt : ∀ x ∈ xs, x < s.n
  fresh : ∀ x ∈ xs, x ∉ s.children n
  chain : ∀ x ∈ xs, ∀ j, s.up j n ≠ some x

theorem Spec.CanAttach.mem_head {s : Forest} {n x : Nat} {xs : List Nat}
    (A : Spec.CanAttach s n (x :: xs)) :
    x < s.n ∧ x ∉ s.children n ∧ ∀ j, s.up j n ≠ some x :=
  ⟨A.lt x List.mem_cons_self, A.fresh x List.mem_cons_self, A.chain x List.mem_cons_self⟩

theorem Spec.CanAttach.step {s : Forest} {n x : Nat} {xs : List Nat}
    (A : Spec.CanAttach s n (x :: xs)) : Spec.CanAttach (Spec.moved s x n) n xs := by
  have R := Spec.moved_props A.inv A.mem_head.1 A.node A.mem_head.2.1 A.mem_head.2.2
  have hnd := List.nodup_cons.mp A.nodup
  refine ⟨R.inv, R.size ▸ A.node, hnd.2, fun y hy => R.size ▸ A.lt y (List.mem_cons_of_mem _ hy),
    fun y hy hm => ?_, fun y hy j => by rw [R.chain]; exact A.chain y (List.mem_cons_of_mem _ hy) j⟩
  rw [R.children_self] at hm
  rcases List.mem_append.1 hm with hm | hm
  · exact A.fresh y (List.mem_cons_of_mem _ hy) hm
  · exact hnd.1 (List.mem_singleton.1 hm ▸ hy)

theorem Spec.attachAll_props (n : Nat) :
    ∀ (xs : List Nat) (s : Forest), Spec.CanAttach s n xs →
      Spec.Relinked s (Spec.attachAll s n xs).1 n (s.children n ++ xs)
        (fun y => if xs.contains y then some n else s.parent y)
        fun q => (s.children q).filter fun c => !xs.contains c := by
  intro xs
  induction xs with
  | nil =>
    intro s A
    refine ⟨A.inv, rfl, by simp [Spec.attachAll], fun _ => rfl, fun y => by simp [Spec.attachAll],
      ?_⟩
    intro q _
    simp only [Spec.attachAll, List.contains_nil, Bool.not_false]
    exact (List.filter_eq_self.mpr (fun _ _ => rfl)).symm
  | cons x xs ih =>
    intro s A
    have R := Spec.moved_props A.inv A.mem_head.1 A.node A.mem_head.2.1 A.mem_head.2.2
    have R' := ih (Spec.moved s x n) A.step
    rw [Spec.attachAll_cons]
    refine ⟨R'.inv, R'.size.trans R.size, by rw [R'.children_self, R.children_self]; simp,
      fun j => (R'.chain j).trans (R.chain j), fun y => ?_, fun q hq => ?_⟩
    · rw [R'.parent, R.parent]
      by_cases hyx : y = x
      · simp [hyx]
      · simp [hyx]
    · rw [R'.children_other q hq, R.children_other q hq, filter_ne_filter_not_contains]

theorem Spec.delChildren_log (s : Forest) (n : Nat) :
    (Spec.delChildren s n).log =
      [Spec.ev .preDetachChildren n (s.children n) s] ++ (Spec.detachAll s (s.children n)).2 ++
        [Spec.ev .postDetachChildren n (s.children n) (Spec.detachAll s (s.children n)).1] := rfl

theorem Spec.detachAll_parent (s : Forest) (cs : List Nat) (y : Nat) :
    (Spec.detachAll s cs).1.parent y = if cs.contains y then none else s.parent y := by
  induction cs generalizing s with
  | nil => simp [Spec.detachAll]
  | cons c cs ih =>
    simp only [Spec.detachAll]
    rw [ih, Spec.detached_parent]
    by_cases hyc : y = c
    · simp [hyc]
    · simp [hyc]

theorem Spec.up_detachAll_avoid {y : Nat} (cs : List Nat) (s : Forest)
    (hc : ∀ c ∈ cs, ∀ j, s.up j y ≠ some c) (k : Nat) : (Spec.detachAll s cs).1.up k y = s.up k y :=
  up_congr_avoid (A := (· ∈ cs))
    (fun z hz => (Spec.detachAll_parent s cs z).trans (if_neg (by simpa using hz))) k y
    fun j _ hz hm => hc _ hm j hz

theorem Spec.delChildren_props {s : Forest} (h : Inv s) (n : Nat) :
    Spec.Relinked s (Spec.delChildren s n).f n []
      (fun y => if s.parent y = some n then none else s.parent y) s.children := by
  rw [show (Spec.delChildren s n).f = (Spec.detachAll s (s.children n)).1 from rfl]
  refine ⟨Spec.inv_detachAll h _, Spec.detachAll_n _ _, ?_, ?_, ?_, ?_⟩
  · rw [Spec.detachAll_children h]
    apply List.filter_eq_nil_iff.mpr
    intro a ha; simp [ha]
  · exact Spec.up_detachAll_avoid _ s (fun c hc => h.child_not_on_chain hc)
  · intro y
    rw [Spec.detachAll_parent]
    by_cases hy : s.parent y = some n
    · simp [hy, (h.bidir y n).1 hy]
    · have : y ∉ s.children n := fun hm => hy ((h.bidir y n).2 hm)
      simp [hy, this]
  · intro q hq
    rw [Spec.detachAll_children h]
    apply List.filter_eq_self.mpr
    intro a ha
    simp only [Bool.not_eq_eq_eq_not, Bool.not_true, List.contains_eq_mem, decide_eq_false_iff_not]
    intro ha'
    have h1 := (h.bidir a q).2 ha
    have h2 := (h.bidir a n).2 ha'
    rw [h1] at h2; exact hq (Option.some.inj h2)

theorem Spec.detached_comm {s : Forest} (h : Inv s) (a b : Nat) :
    Spec.detached (Spec.detached s a) b = Spec.detached (Spec.detached s b) a := by
  apply Forest.ext
  · simp only [Spec.detached_n]
  · funext x
    simp only [Spec.detached_parent]
    by_cases hb : x = b <;> by_cases ha : x = a <;> simp [hb, ha]
  · funext x
    rw [Spec.detached_children (Spec.inv_detached h a), Spec.detached_children h,
      Spec.detached_children (Spec.inv_detached h b), Spec.detached_children h,
      List.filter_filter, List.filter_filter]
    apply List.filter_congr
    intro z _
    exact Bool.and_comm _ _

theorem Spec.detached_attached {u : Forest} (hu : Inv u) {n p y : Nat}
    (hA : Inv (Spec.attached u n p)) (hyn : y ≠ n) :
    Spec.detached (Spec.attached u n p) y = Spec.attached (Spec.detached u y) n p := by
  apply Forest.ext
  · simp only [Spec.detached_n, Spec.attached_n]
  · funext x
    simp only [Spec.detached_parent, Spec.attached_parent]
    by_cases hx : x = y
    · have : x ≠ n := by rw [hx]; exact hyn
      simp [hx, hyn]
    · simp [hx]
  · funext x
    rw [Spec.detached_children hA, Spec.attached_children, Spec.attached_children,
      Spec.detached_children hu, Spec.detached_children hu]
    by_cases hx : x = p
    · have hny : (n != y) = true := by simpa [bne_iff_ne] using Ne.symm hyn
      simp [hx, List.filter_append, hny]
    · simp [hx]

theorem Spec.up_detached_some {s : Forest} {x : Nat} (k a b : Nat)
    (hk : (Spec.detached s x).up k a = some b) : s.up k a = some b := by
  cases hp : s.parent x with
  | none => rw [Spec.detached_root hp] at hk; exact hk
  | some q => rw [Spec.detached_eq hp] at hk; exact up_detachRaw_some k a b hk

theorem Spec.isAnc_detached_false {s : Forest} (h : Inv s) {n p : Nat} (x : Nat) (hp : p < s.n)
    (hanc : Spec.isAnc s n p = false) : Spec.isAnc (Spec.detached s x) n p = false := by
  cases ha : Spec.isAnc (Spec.detached s x) n p with
  | false => rfl
  | true =>
    obtain ⟨k, hk0, hk⟩ :=
      ((Spec.inv_detached h x).isAnc_iff (by rw [Spec.detached_n]; exact hp)).1 ha
    have := (h.isAnc_iff hp).2 ⟨k, hk0, Spec.up_detached_some k p n hk⟩
    rw [hanc] at this; cases this

theorem Spec.detachAll_detached {s : Forest} (h : Inv s) (y : Nat) (cs : List Nat) :
    (Spec.detachAll (Spec.detached s y) cs).1 = Spec.detached (Spec.detachAll s cs).1 y := by
  induction cs generalizing s with
  | nil => rfl
  | cons c cs ih =>
    simp only [Spec.detachAll]
    rw [Spec.detached_comm h y c]
    exact ih (Spec.inv_detached h c)

theorem Spec.detachAll_filter_root (y : Nat) (cs : List Nat) :
    ∀ (s : Forest), s.parent y = none →
      (Spec.detachAll s (cs.filter (· != y))).1 = (Spec.detachAll s cs).1 := by
  induction cs with
  | nil => intro s _; rfl
  | cons c cs ih =>
    intro s hy
    by_cases hc : c = y
    · subst hc
      simp only [List.filter_cons, bne_self_eq_false, Bool.false_eq_true, if_false, Spec.detachAll]
      rw [Spec.detached_root hy]
      exact ih s hy
    · have hb : (c != y) = true := by simpa [bne_iff_ne] using hc
      simp only [List.filter_cons, hb, if_true, Spec.detachAll]
      apply ih
      rw [Spec.detached_parent, hy]
      simp

theorem Spec.detachAll_parent_mem (s : Forest) {cs : List Nat} {y : Nat} (hy : y ∈ cs) :
    (Spec.detachAll s cs).1.parent y = none := by
  rw [Spec.detachAll_parent]
  simp [hy]

theorem Spec.detachAll_detached_children_nil {s : Forest} (h : Inv s) (n y : Nat) :
    (Spec.detached (Spec.detachAll s (s.children n)).1 y).children n = [] := by
  rw [Spec.detached_children (Spec.inv_detachAll h _),
    show (Spec.detachAll s (s.children n)).1.children n = [] from (Spec.delChildren_props h n).children_self]
  rfl

theorem Spec.detachAll_log_length : ∀ (cs : List Nat) (s : Forest), cs.Nodup →
    (∀ c ∈ cs, s.parent c ≠ none) → (Spec.detachAll s cs).2.length = 2 * cs.length := by
  intro cs
  induction cs with
  | nil => intro s _ _; rfl
  | cons c cs ih =>
    intro s hnd hp
    rw [List.nodup_cons] at hnd
    have h1 : (Spec.detachLog s c).length = 2 := by
      cases hq : s.parent c with
      | none => exact absurd hq (hp c (by simp))
      | some q => simp [Spec.detachLog, hq]
    have h2 := ih (Spec.detached s c) hnd.2 (fun c' hc' => by
      rw [Spec.detached_parent]
      have : c' ≠ c := fun e => hnd.1 (e ▸ hc')
      simp only [this, if_false]
      exact hp c' (by simp [hc']))
    simp only [Spec.detachAll, List.length_append, h1, h2, List.length_cons]
    rw [Nat.mul_succ, Nat.add_comm]

theorem Spec.delChildren_log_length {s : Forest} (h : Inv s) (n : Nat) :
    (Spec.delChildren s n).log.length = 2 * (s.children n).length + 2 := by
  have := Spec.detachAll_log_length (s.children n) s (h.nodup n) (fun c hc => by
    rw [(h.bidir c n).2 hc]; exact fun e => by cases e)
  simp only [Spec.delChildren_log, List.length_append, List.length_cons, List.length_nil, this]
  rw [Nat.add_comm (0 + 1)]

theorem Spec.attachAll_log_length (n : Nat) : ∀ (pre : List Nat) (s : Forest), pre.Nodup →
    (∀ y ∈ pre, s.parent y = none) → (Spec.attachAll s n pre).2.length = 2 * pre.length := by
  intro pre
  induction pre with
  | nil => intro s _ _; rfl
  | cons x pre ih =>
    intro s hnd hp
    rw [List.nodup_cons] at hnd
    have h1 : Spec.detachLog s x = [] := Spec.detachLog_root (hp x (by simp))
    have h2 := ih (Spec.moved s x n) hnd.2 (fun y hy => by
      have hyx : y ≠ x := fun e => hnd.1 (e ▸ hy)
      rw [Spec.moved_parent, if_neg hyx]
      exact hp y (List.mem_cons_of_mem _ hy))
    rw [Spec.attachAll_cons]
    simp only [h1, List.nil_append, List.length_append, Spec.attachLog, List.length_cons,
      List.length_nil, h2]
    rw [Nat.mul_succ, Nat.add_comm]

theorem Spec.delChildren_of_nil {s : Forest} {n : Nat} (h : s.children n = []) :
    (Spec.delChildren s n).f = s := by
  simp [Spec.delChildren, h, Spec.detachAll]

end Anytree
