import Anytree.Lemmas.Match
import Anytree.Lemmas.Resolver
/-!
`Resolver.glob` without its cache (`globP`), as a recursion over the components in the vocabulary of
`denote`, and what follows for relaxed and strict mode.
-/
namespace Anytree
namespace GlobL
open Tree Str Resolver Spec ResolverLemmas
variable {α : Type}

/-- `starLoop`, `findLoop` and `globM` of the mirror with the cache dropped; `g` stands for the
recursive call on the remaining components, `hit` for the match of a child's name -/
def starP (legacy : Bool) (g : Addr → Except RErr (List Addr)) :
    List Addr → List Addr → Except RErr (List Addr)
  | [], acc => .ok acc
  | s :: ss, acc =>
    match g s with
    | .ok ms => starP legacy g ss (appendNew acc ms)
    | .error (.child _ _) => starP legacy g ss acc
    | .error e => if legacy then .error e else starP legacy g ss acc

def findP (hit : Addr → Bool) (wild : Bool) (g : Addr → Except RErr (List Addr)) :
    List Addr → List Addr → Except RErr (List Addr)
  | [], acc => .ok acc
  | ch :: chs, acc =>
    if hit ch then
      match g ch with
      | .ok ms => findP hit wild g chs (acc ++ ms)
      | .error e => if wild then findP hit wild g chs acc else .error e
    else findP hit wild g chs acc

/-- the range of `**`: the node and its descendants, in pre-order -/
def under (c : Ctx α) (a : Addr) : List Addr := (Tree.addrs ((sub c.r a).getD c.r)).map (a ++ ·)

def globP (legacy : Bool) (c : Ctx α) : List String → Addr → Except RErr (List Addr)
  | [], a => .ok [a]
  | name :: rem, a =>
    if name == ".." then
      if a = [] then (if c.relax then .ok [] else .error (.root a))
      else globP legacy c rem a.dropLast
    else if name == "" || name == "." then globP legacy c rem a
    else if name == "**" then
      starP legacy (globP legacy c rem) (under c a) []
    else
      match findP (fun ch => matchPure c.ignorecase (c.name ch) name) (isWildcard name)
          (globP legacy c rem) (c.children a) [] with
      | .error e => .error e
      | .ok ms =>
        if ms.isEmpty && !isWildcard name && !c.relax then
          if legacy then .error (.child a name)
          else if (c.children a).any (fun ch => matchPure c.ignorecase (c.name ch) name) then .ok ms
          else .error (.child a name)
        else .ok ms

/-- `Resolver.glob` without a cache -/
def globTopP (legacy : Bool) (c : Ctx α) (a : Addr) (path : String) : Except RErr (List Addr) :=
  let parts := split c.sep path
  if startsWith path c.sep then
    match parts.drop 1 with
    | [] => .error (.plain [])
    | p0 :: rest =>
      if p0 == "" then (if c.relax then .ok [] else .error (.plain []))
      else if !matchPure c.ignorecase (c.name []) p0 then
        (if c.relax then .ok [] else .error (.plain []))
      else globP legacy c rest []
  else globP legacy c parts a

theorem appendNew_nil (acc : List Addr) : appendNew acc [] = acc := rfl

theorem appendNew_append (acc x y : List Addr) :
    appendNew acc (x ++ y) = appendNew (appendNew acc x) y := by
  simp [appendNew, List.foldl_append]

/-- what a result contributes below a `*`, `?` or `**` component, which swallows errors: its list, nothing
for an error -/
def okList : Except RErr (List Addr) → List Addr
  | .ok l => l
  | .error _ => []

theorem starP_false (g : Addr → Except RErr (List Addr)) (l acc : List Addr) :
    starP false g l acc = .ok (appendNew acc (l.flatMap (fun s => okList (g s)))) := by
  fun_induction starP false g l acc with
  | case1 acc => rfl
  | case2 s ss acc ms hg ih => rw [ih, List.flatMap_cons, appendNew_append, hg]; rfl
  | case3 s ss acc n x hg ih => rw [ih, List.flatMap_cons, appendNew_append, hg]; rfl
  | case4 s ss acc e hne hg => cases ‹false = true›
  | case5 s ss acc e hne hg hl ih => rw [ih, List.flatMap_cons, appendNew_append, hg]; rfl

theorem findP_wild (hit : Addr → Bool) (g : Addr → Except RErr (List Addr)) (l acc : List Addr) :
    findP hit true g l acc = .ok (acc ++ (l.filter hit).flatMap (fun s => okList (g s))) := by
  fun_induction findP hit true g l acc with
  | case1 acc => simp
  | case2 ch chs acc h ms hg ih => rw [ih, List.filter_cons_of_pos h, List.flatMap_cons, hg, List.append_assoc]; rfl
  | case3 ch chs acc h e hg _ ih => rw [ih, List.filter_cons_of_pos h, List.flatMap_cons, hg]; rfl
  | case4 ch chs acc h e hg hw => cases hw rfl
  | case5 ch chs acc h ih => rw [ih, List.filter_cons_of_neg h]

/-- the alternatives in order, the first error wins: `__find` on a literal component -/
def collect (g : Addr → Except RErr (List Addr)) : List Addr → Except RErr (List Addr)
  | [] => .ok []
  | s :: ss =>
    match g s with
    | .error e => .error e
    | .ok ms => match collect g ss with
      | .error e => .error e
      | .ok r => .ok (ms ++ r)

theorem collect_error {g : Addr → Except RErr (List Addr)} {l : List Addr} {e : RErr}
    (h : collect g l = .error e) : ∃ s ∈ l, g s = .error e := by
  fun_induction collect g l with
  | case1 => cases h
  | case2 s ss e' hs => cases h; exact ⟨s, List.mem_cons_self .., hs⟩
  | case3 s ss ms hs e' hr ih => cases h; obtain ⟨x, hx, hgx⟩ := ih hr; exact ⟨x, List.mem_cons_of_mem _ hx, hgx⟩
  | case4 s ss ms hs r hr ih => cases h

theorem collect_ok {g : Addr → Except RErr (List Addr)} {l : List Addr} {r : List Addr}
    (h : collect g l = .ok r) :
    (∀ s ∈ l, g s = .ok (okList (g s))) ∧ r = l.flatMap fun s => okList (g s) := by
  fun_induction collect g l generalizing r with
  | case1 => cases h; exact ⟨fun _ h => (by cases h), rfl⟩
  | case2 s ss e' hs => cases h
  | case3 s ss ms hs e' hr ih => cases h
  | case4 s ss ms hs r' hr ih =>
    cases h
    obtain ⟨h1, h2⟩ := ih hr
    refine ⟨fun x hx => ?_, by rw [List.flatMap_cons, hs, h2]; rfl⟩
    rcases List.mem_cons.mp hx with rfl | hx
    · rw [hs]; rfl
    · exact h1 x hx

theorem collect_of_ok {g : Addr → Except RErr (List Addr)} {f : Addr → List Addr} {l : List Addr}
    (h : ∀ s ∈ l, g s = .ok (f s)) : collect g l = .ok (l.flatMap f) := by
  induction l with
  | nil => rfl
  | cons s ss ih =>
    rw [collect, h s (List.mem_cons_self ..), ih fun x hx => h x (List.mem_cons_of_mem _ hx)]
    rfl

theorem okList_collect_subset {g : Addr → Except RErr (List Addr)} {l : List Addr} :
    ∀ x ∈ okList (collect g l), x ∈ l.flatMap fun s => okList (g s) := by
  intro x hx
  cases hc : collect g l with
  | error e => rw [hc] at hx; cases hx
  | ok r => rw [hc, (collect_ok hc).2] at hx; exact hx

theorem findP_lit (hit : Addr → Bool) (g : Addr → Except RErr (List Addr)) (l acc : List Addr) :
    findP hit false g l acc =
      match collect g (l.filter hit) with
      | .error e => .error e
      | .ok r => .ok (acc ++ r) := by
  fun_induction findP hit false g l acc with
  | case1 acc => simp [collect]
  | case2 ch chs acc h ms hg ih =>
    rw [ih, List.filter_cons_of_pos h, collect, hg]
    cases collect g (chs.filter hit) <;> simp
  | case3 ch chs acc h e hg hw ih => cases hw
  | case4 ch chs acc h e hg hw => rw [List.filter_cons_of_pos h, collect, hg]
  | case5 ch chs acc h ih => rw [ih, List.filter_cons_of_neg h]

/-- one round of `if not any(match is known …): matches.append(match)` -/
def push (acc : List Addr) (m : Addr) : List Addr := if acc.contains m then acc else acc ++ [m]

theorem appendNew_cons (acc : List Addr) (m : Addr) (ms : List Addr) :
    appendNew acc (m :: ms) = appendNew (push acc m) ms := rfl

theorem mem_push {acc : List Addr} {m x : Addr} : x ∈ push acc m ↔ x ∈ acc ∨ x = m := by
  unfold push; split
  · next h => exact ⟨.inl, fun h' => h'.elim id fun e => e ▸ by simpa using h⟩
  · simp

theorem nodup_push {acc : List Addr} (m : Addr) (h : acc.Nodup) : (push acc m).Nodup := by
  unfold push; split
  · exact h
  · next hc =>
    refine List.nodup_append.mpr ⟨h, by simp, fun x hx y hy => ?_⟩
    rw [List.mem_singleton.mp hy]; rintro rfl; exact hc (by simpa using hx)

theorem mem_appendNew (ms : List Addr) : ∀ (acc : List Addr) (x : Addr),
    x ∈ appendNew acc ms ↔ x ∈ acc ∨ x ∈ ms := by
  induction ms with
  | nil => intro acc x; simp [appendNew]
  | cons m ms ih => intro acc x; rw [appendNew_cons, ih, mem_push, List.mem_cons, or_assoc]

theorem nodup_appendNew (ms : List Addr) : ∀ (acc : List Addr), acc.Nodup → (appendNew acc ms).Nodup := by
  induction ms with
  | nil => intro acc h; exact h
  | cons m ms ih => intro acc h; exact ih _ (nodup_push m h)

theorem mem_dedup (l : List Addr) (x : Addr) : x ∈ dedup l ↔ x ∈ l := by
  simp [dedup, mem_appendNew]

theorem nodup_dedup (l : List Addr) : (dedup l).Nodup := nodup_appendNew l [] List.nodup_nil

theorem matching_sublist (c : Ctx α) (a : Addr) (name : String) :
    (matching c a name).Sublist (c.children a) := List.filter_sublist

/-! `denote`, `hasDeadEnd`, `globP` read a component in the four ways of `ResolverLemmas.comp`; each gets
one equation, a `match` on `comp p`, and the proofs split on `comp p` instead of replaying the chain
of string tests. -/

theorem denote_cons (c : Ctx α) (p : String) (rem : List String) (a : Addr) :
    denote c (p :: rem) a = match comp p with
      | .up => if a = [] then [] else denote c rem a.dropLast
      | .stay => denote c rem a
      | .deep => dedup ((under c a).flatMap (denote c rem))
      | .named => (matching c a p).flatMap (denote c rem) := by
  rw [denote]; exact comp_ite p _ _ _ _

theorem hasDeadEnd_cons (c : Ctx α) (p : String) (rem : List String) (a : Addr) :
    hasDeadEnd c (p :: rem) a = match comp p with
      | .up => if a = [] then true else hasDeadEnd c rem a.dropLast
      | .stay => hasDeadEnd c rem a
      | .deep => (under c a).any (hasDeadEnd c rem)
      | .named =>
        if isWildcard p then (matching c a p).any (hasDeadEnd c rem)
        else (matching c a p).isEmpty || (matching c a p).any (hasDeadEnd c rem) := by
  rw [hasDeadEnd]; exact comp_ite p _ _ _ _

theorem matching_eq_nil_iff (c : Ctx α) (a : Addr) (p : String) : matching c a p = [] ↔
    (c.children a).any (fun ch => matchPure c.ignorecase (c.name ch) p) = false := by
  simp [matching, List.filter_eq_nil_iff]

/-- `__glob` after the repairs of findings D4 and D8 (`legacy = false`) in the vocabulary of
`denote`: `**` and `*`/`?` components swallow every error below them; a literal component passes the
first error on, and raises itself exactly when it selects no child -/
theorem globP_cons (c : Ctx α) (p : String) (rem : List String) (a : Addr) :
    globP false c (p :: rem) a = match comp p with
      | .up => if a = [] then (if c.relax then .ok [] else .error (.root a)) else globP false c rem a.dropLast
      | .stay => globP false c rem a
      | .deep => .ok (dedup ((under c a).flatMap fun s => okList (globP false c rem s)))
      | .named =>
        if isWildcard p then .ok ((matching c a p).flatMap fun s => okList (globP false c rem s))
        else if matching c a p = [] ∧ c.relax = false then .error (.child a p)
        else collect (globP false c rem) (matching c a p) := by
  rw [globP, comp_ite]
  cases comp p with
  | up => rfl
  | stay => rfl
  | deep => exact starP_false ..
  | named =>
    simp only []
    cases isWildcard p with
    | true => rw [findP_wild]; simp [matching]
    | false =>
      rw [findP_lit]
      have hf : (c.children a).filter (fun ch => matchPure c.ignorecase (c.name ch) p) = matching c a p := rfl
      rw [hf]
      by_cases hm : matching c a p = []
      · have hany := (matching_eq_nil_iff c a p).mp hm
        rw [hm]; cases hr : c.relax <;> simp [collect, hany]
      · have hany := Bool.of_not_eq_false (mt (matching_eq_nil_iff c a p).mpr hm)
        cases collect (globP false c rem) (matching c a p) <;> simp [hm, hany]

theorem globP_relaxed (c : Ctx α) (hr : c.relax = true) (parts : List String) :
    ∀ a, globP false c parts a = .ok (denote c parts a) := by
  induction parts with
  | nil => intro a; rfl
  | cons p rem ih =>
    intro a
    have hok : (fun s => okList (globP false c rem s)) = denote c rem := funext fun s => by rw [ih]; rfl
    rw [globP_cons, denote_cons, hok]
    cases comp p with
    | up => simp only [hr, ih]; cases a <;> rfl
    | stay => exact ih a
    | deep => rfl
    | named => simp [collect_of_ok fun s _ => ih s, hr]

theorem globP_strict_dead (c : Ctx α) (parts : List String) :
    ∀ a e, globP false c parts a = .error e → hasDeadEnd c parts a = true := by
  induction parts with
  | nil => intro a e h; cases h
  | cons p rem ih =>
    intro a e h
    rw [globP_cons] at h; rw [hasDeadEnd_cons]
    generalize comp p = k at h ⊢
    cases k with
    | up =>
      simp only [] at h ⊢
      cases a
      · rfl
      · exact ih _ _ h
    | stay => exact ih _ _ h
    | deep => cases h
    | named =>
      simp only [] at h ⊢
      split at h
      · cases h
      · next hw =>
        rw [if_neg hw, Bool.or_eq_true]
        split at h
        · next hm => exact .inl (by rw [hm.1]; rfl)
        · -- the error is that of a matching child
          obtain ⟨s, hs, hgs⟩ := collect_error h
          exact .inr (List.any_eq_true.mpr ⟨s, hs, ih _ _ hgs⟩)

theorem globP_subset (c : Ctx α) (parts : List String) :
    ∀ a, ∀ x ∈ okList (globP false c parts a), x ∈ denote c parts a := by
  induction parts with
  | nil => intro a x hx; exact hx
  | cons p rem ih =>
    intro a x hx
    rw [globP_cons] at hx; rw [denote_cons]
    generalize comp p = k at hx ⊢
    cases k with
    | up =>
      simp only [] at hx ⊢
      cases a
      · cases hrel : c.relax <;> simp [hrel, okList] at hx
      · exact ih _ x hx
    | stay => exact ih _ x hx
    | deep => exact (mem_dedup _ x).mpr (mem_flatMap_mono ih ((mem_dedup _ x).mp hx))
    | named =>
      refine mem_flatMap_mono ih ?_
      simp only [] at hx
      split at hx
      · exact hx
      · split at hx
        · cases hx
        · exact okList_collect_subset x hx

theorem globP_strict_denote (c : Ctx α) (hr : c.relax = false) (parts : List String)
    (hu : ∀ name ∈ parts, isWildcard name = false → ∀ b, (matching c b name).length ≤ 1) :
    ∀ a, okList (globP false c parts a) = denote c parts a := by
  induction parts with
  | nil => intro a; rfl
  | cons p rem ih =>
    have ih := ih fun n hn => hu n (List.mem_cons_of_mem _ hn)
    have hok : (fun s => okList (globP false c rem s)) = denote c rem := funext ih
    intro a
    rw [globP_cons, denote_cons, hok]
    cases comp p with
    | up =>
      simp only [hr]; cases a
      · rfl
      · exact ih _
    | stay => exact ih a
    | deep => rfl
    | named =>
      simp only []
      cases hw : isWildcard p with
      | true => rfl
      | false =>
        -- a literal component selects no child (an error, nothing denoted) or exactly one
        have hl := hu p (List.mem_cons_self ..) hw a
        rw [if_neg Bool.false_ne_true]
        generalize matching c a p = m at hl ⊢
        rcases m with _ | ⟨s, _ | ⟨t, u⟩⟩
        · rw [if_pos ⟨rfl, hr⟩]; rfl
        · rw [if_neg fun h => List.cons_ne_nil _ _ h.1, collect, collect, List.flatMap_singleton, ← ih s]
          cases globP false c rem s with
          | error e => rfl
          | ok l => exact congrArg okList (congrArg Except.ok (List.append_nil l))
        · exact absurd (Nat.le_of_succ_le_succ hl) (Nat.not_succ_le_zero _)

/-- the components that follow the first wildcard (`*`, `?`, `**`) component -/
def afterWild : List String → List String
  | [] => []
  | p :: ps => if isWildcard p then ps else afterWild ps

theorem afterWild_subset (parts : List String) : ∀ x ∈ afterWild parts, x ∈ parts := by
  fun_induction afterWild parts with
  | case1 => exact fun _ h => h
  | case2 p ps hw => exact fun x hx => List.mem_cons_of_mem _ hx
  | case3 p ps hw ih => exact fun x hx => List.mem_cons_of_mem _ (ih x hx)

/-- sharper form of `globP_strict_denote`: only literal components *behind a wildcard* must be
unambiguous (before the first wildcard an error is never swallowed) -/
theorem globP_strict_ok (c : Ctx α) (hr : c.relax = false) (parts : List String)
    (hu : ∀ name ∈ afterWild parts, isWildcard name = false → ∀ b, (matching c b name).length ≤ 1) :
    ∀ a l, globP false c parts a = .ok l → l = denote c parts a := by
  induction parts with
  | nil => intro a l h; cases h; rfl
  | cons p rem ih =>
    intro a l h
    by_cases hw : isWildcard p = true
    · -- behind the first wildcard errors may be swallowed: `globP_strict_denote`
      rw [afterWild, if_pos hw] at hu
      have := globP_strict_denote c hr (p :: rem) (fun n hn hnw => by
        rcases List.mem_cons.mp hn with rfl | hn
        · rw [hw] at hnw; cases hnw
        · exact hu n hn hnw) a
      rw [h] at this; exact this
    · -- before it every error propagates, so an `ok` run had only `ok` alternatives
      rw [afterWild, if_neg hw] at hu
      have ih := ih hu
      rw [globP_cons] at h; rw [denote_cons]
      generalize hk : comp p = k at h ⊢
      cases k with
      | up =>
        simp only [] at h ⊢
        cases a
        · rw [hr] at h; cases h
        · exact ih _ _ h
      | stay => exact ih _ _ h
      | deep => rw [comp_deep hk] at hw; exact absurd (by decide) hw
      | named =>
        simp only [if_neg hw] at h ⊢
        split at h
        · cases h
        · obtain ⟨h1, rfl⟩ := collect_ok h
          exact flatMap_congr fun s hs => (ih s _ (h1 s hs)).symm ▸ rfl

theorem denote_prefix (c : Ctx α) (parts : List String) (hp : ∀ p ∈ parts, p ≠ "..") :
    ∀ a, ∀ x ∈ denote c parts a, a <+: x := by
  induction parts with
  | nil => intro a x hx; rw [List.mem_singleton.mp hx]; exact List.prefix_refl _
  | cons p rem ih =>
    have ih := ih fun q h => hp q (List.mem_cons_of_mem _ h)
    intro a x hx
    rw [denote_cons] at hx
    generalize hk : comp p = k at hx
    cases k with
    | up => exact absurd (comp_up hk) (hp _ (List.mem_cons_self ..))
    | stay => exact ih a x hx
    | deep =>
      obtain ⟨s, hs, hxs⟩ := List.mem_flatMap.mp ((mem_dedup _ x).mp hx)
      obtain ⟨t, _, rfl⟩ := List.mem_map.mp hs
      exact (List.prefix_append a t).trans (ih _ x hxs)
    | named =>
      obtain ⟨ch, hch, hxc⟩ := List.mem_flatMap.mp hx
      exact (children_prefix c a ch ((matching_sublist c a p).subset hch)).trans (ih _ x hxc)

theorem sub_child (r : Tree α) (a : Addr) (t : Tree α) (h : sub r a = some t) (i : Nat)
    (hi : i < t.kids.length) : sub r (a ++ [i]) = some t.kids[i] := by
  rw [Tree.sub_concat, h, Option.bind_some, List.getElem?_eq_getElem hi]

theorem under_eq (c : Ctx α) (a : Addr) (t : Tree α) (h : sub c.r a = some t) :
    under c a = a :: (c.children a).flatMap (under c) := by
  cases t with
  | node x cs =>
    have hch : c.children a = cs.mapIdx fun i _ => a ++ [i] := by
      rw [children_eq c a _ h, kids_node]; apply List.ext_getElem <;> simp
    unfold under
    rw [h, Option.getD_some, addrs_node, List.map_cons, List.append_nil, hch, List.flatMap_def,
      List.map_flatten, map_mapIdx, map_mapIdx]
    congr 2
    refine List.mapIdx_eq_mapIdx_iff.mpr fun i hi => ?_
    rw [sub_child c.r a _ h i hi, Option.getD_some, List.map_map]
    exact List.map_congr_left fun b _ => by simp

theorem globTopP_relaxed (c : Ctx α) (hr : c.relax = true) (hsep : c.sep ≠ "") (a : Addr)
    (path : String) : globTopP false c a path = .ok (globS c a path) := by
  unfold globTopP globS
  simp only
  by_cases h1 : startsWith path c.sep = true
  · simp only [h1, if_true]
    obtain ⟨p0, rest, hd⟩ :=
      List.exists_cons_of_ne_nil (split_drop_one_ne_nil c.sep path hsep h1)
    rw [hd]
    simp only
    by_cases h2 : (p0 == "") = true
    · simp [h2, hr]
    · simp only [h2, Bool.false_eq_true, ↓reduceIte]
      cases matchPure c.ignorecase (c.name []) p0 with
      | false => simp [hr]
      | true => simpa using globP_relaxed c hr rest []
  · simp only [h1, Bool.false_eq_true, ↓reduceIte]
    exact globP_relaxed c hr _ a

/-- sibling names pairwise different under `re.IGNORECASE` — the comparison `glob` itself makes -/
def SiblingUniqueRe (c : Ctx α) : Prop :=
  ∀ a x y, x ∈ c.children a → y ∈ c.children a →
    normRe c.ignorecase (c.name x).toList = normRe c.ignorecase (c.name y).toList → x = y

/-- the two notions of sibling-uniqueness coincide over case-regular names -/
theorem siblingUniqueRe_iff (c : Ctx α) (hca : CaseAgree c (fun _ => False)) :
    SiblingUniqueRe c ↔ SiblingUnique c := by
  have key : ∀ x y : Addr, normRe c.ignorecase (c.name x).toList = normRe c.ignorecase (c.name y).toList ↔
      cmp c.ignorecase (c.name x) (c.name y) = true := fun x y => by
    rw [cmp_iff_norm, normRe_eq_iff_norm c.ignorecase hca _ _ (fun z hz => Or.inr ⟨x, hz⟩)
      (fun z hz => Or.inr ⟨y, hz⟩)]
  exact ⟨fun h a x y hx hy hc => h a x y hx hy ((key x y).mpr hc),
    fun h a x y hx hy hc => h a x y hx hy ((key x y).mp hc)⟩

end GlobL
end Anytree
