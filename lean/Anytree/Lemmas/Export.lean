import Anytree.Spec.Export
import Anytree.Props.C06b
/-!
DOT and Mermaid are two instances of one generator (`namedLines`: one line per node whose name is asked
for; `namedEdges`: per parent, its name and then `namedLines` over the re-checked children; `genIter`: both
in sequence); what is said about naming is said once, about the generator (for a pure naming here; for the
first-use counter in Props/C12: `genIter_ctr`).

The specification reads the demanded edges off the admitted tree (`Spec.edgePairs`); the exporters walk the
pre-order with `maxlevel` one lower and re-check each child.  `edgePairs_eq_edgePass`: the same list.
-/
namespace Anytree
open Tree Spec
variable {α κ : Type}

namespace Export

theorem dotNodes_cons (c : DotCfg α κ) (ind : String) (n : Tree α) (ns : List (Tree α))
    (st : IdMap κ) :
    dotNodes c ind (n :: ns) st =
      ((ind ++ "\"" ++ esc (c.nodename st n).1 ++ "\"" ++ optAttr (c.nodeattr n) ++ ";") ::
        (dotNodes c ind ns (c.nodename st n).2).1, (dotNodes c ind ns (c.nodename st n).2).2) := rfl

theorem dotEdgesOf_cons_skip (c : DotCfg α κ) (ind pn : String) (p : Tree α) (R : Tree α → Bool)
    (ch : Tree α) (chs : List (Tree α)) (st : IdMap κ) (h : R ch = false) :
    dotEdgesOf c ind pn p R (ch :: chs) st = dotEdgesOf c ind pn p R chs st := by
  simp [dotEdgesOf, h]

theorem dotEdgesOf_cons_keep (c : DotCfg α κ) (ind pn : String) (p : Tree α) (R : Tree α → Bool)
    (ch : Tree α) (chs : List (Tree α)) (st : IdMap κ) (h : R ch = true) :
    dotEdgesOf c ind pn p R (ch :: chs) st =
      ((ind ++ "\"" ++ esc pn ++ "\" " ++ c.edgetype p ch ++ " \"" ++ esc (c.nodename st ch).1 ++ "\"" ++
          optAttr (c.edgeattr p ch) ++ ";") ::
        (dotEdgesOf c ind pn p R chs (c.nodename st ch).2).1,
        (dotEdgesOf c ind pn p R chs (c.nodename st ch).2).2) := by
  rw [dotEdgesOf]
  simp only [h, Bool.not_true, Bool.false_eq_true, if_false]

theorem dotEdges_cons (c : DotCfg α κ) (ind : String) (p : Tree α) (ps : List (Tree α))
    (st : IdMap κ) :
    dotEdges c ind (p :: ps) st =
      ((dotEdgesOf c ind (c.nodename st p).1 p c.filter p.kids (c.nodename st p).2).1 ++
        (dotEdges c ind ps
          (dotEdgesOf c ind (c.nodename st p).1 p c.filter p.kids (c.nodename st p).2).2).1,
       (dotEdges c ind ps
          (dotEdgesOf c ind (c.nodename st p).1 p c.filter p.kids (c.nodename st p).2).2).2) := rfl

theorem merNodes_cons (c : MermaidCfg α κ) (ind : String) (n : Tree α) (ns : List (Tree α))
    (st : IdMap κ) :
    merNodes c ind (n :: ns) st =
      ((ind ++ (c.nodename st n).1 ++ c.nodefunc n) ::
        (merNodes c ind ns (c.nodename st n).2).1, (merNodes c ind ns (c.nodename st n).2).2) := rfl

theorem merEdgesOf_cons_skip (c : MermaidCfg α κ) (ind pn : String) (p : Tree α)
    (ch : Tree α) (chs : List (Tree α)) (st : IdMap κ) (h : (c.filter ch && !c.stop ch) = false) :
    merEdgesOf c ind pn p (ch :: chs) st = merEdgesOf c ind pn p chs st := by
  rw [merEdgesOf]
  simp only [h, Bool.not_false, if_true]

theorem merEdgesOf_cons_keep (c : MermaidCfg α κ) (ind pn : String) (p : Tree α)
    (ch : Tree α) (chs : List (Tree α)) (st : IdMap κ) (h : (c.filter ch && !c.stop ch) = true) :
    merEdgesOf c ind pn p (ch :: chs) st =
      ((ind ++ pn ++ c.edgefunc p ch ++ (c.nodename st ch).1) ::
        (merEdgesOf c ind pn p chs (c.nodename st ch).2).1,
        (merEdgesOf c ind pn p chs (c.nodename st ch).2).2) := by
  rw [merEdgesOf]
  simp only [h, Bool.not_true, Bool.false_eq_true, if_false]

theorem merEdges_cons (c : MermaidCfg α κ) (ind : String) (p : Tree α) (ps : List (Tree α))
    (st : IdMap κ) :
    merEdges c ind (p :: ps) st =
      ((merEdgesOf c ind (c.nodename st p).1 p p.kids (c.nodename st p).2).1 ++
        (merEdges c ind ps
          (merEdgesOf c ind (c.nodename st p).1 p p.kids (c.nodename st p).2).2).1,
       (merEdges c ind ps
          (merEdgesOf c ind (c.nodename st p).1 p p.kids (c.nodename st p).2).2).2) := rfl

def namedLines (nf : NameFn α κ) (line : String → Tree α → String) :
    List (Tree α) → IdMap κ → List String × IdMap κ
  | [], st => ([], st)
  | n :: ns, st =>
    let r := nf st n
    let r' := namedLines nf line ns r.2
    (line r.1 n :: r'.1, r'.2)

def namedEdges (nf : NameFn α κ) (kids : Tree α → List (Tree α))
    (line : String → Tree α → String → Tree α → String) :
    List (Tree α) → IdMap κ → List String × IdMap κ
  | [], st => ([], st)
  | p :: ps, st =>
    let r := nf st p
    let r1 := namedLines nf (line r.1 p) (kids p) r.2
    let r2 := namedEdges nf kids line ps r1.2
    (r1.1 ++ r2.1, r2.2)

def genIter (nf : NameFn α κ) (nline : String → Tree α → String) (kids : Tree α → List (Tree α))
    (eline : String → Tree α → String → Tree α → String) (ns ps : List (Tree α)) (st : IdMap κ) :
    List String × IdMap κ :=
  let N := namedLines nf nline ns st
  let E := namedEdges nf kids eline ps N.2
  (N.1 ++ E.1, E.2)

theorem namedLines_pure (nm : Tree α → String) (line : String → Tree α → String)
    (ns : List (Tree α)) (st : IdMap κ) :
    namedLines (NameFn.pure nm) line ns st = (ns.map fun n => line (nm n) n, st) := by
  induction ns with
  | nil => rfl
  | cons n ns ih => simp only [namedLines, NameFn.pure, ih, List.map_cons]

theorem namedEdges_pure (nm : Tree α → String) (kids : Tree α → List (Tree α))
    (line : String → Tree α → String → Tree α → String) (ps : List (Tree α)) (st : IdMap κ) :
    namedEdges (NameFn.pure nm) kids line ps st =
      (ps.flatMap fun p => (kids p).map fun ch => line (nm p) p (nm ch) ch, st) := by
  induction ps with
  | nil => rfl
  | cons p ps ih =>
    simp only [namedEdges, namedLines_pure, NameFn.pure, ih, List.flatMap_cons]

/-- the four line formats of `Spec/Export` (`dotNodeLine` …) with the names as arguments: the generator
hands them in, the specification computes them from a pure naming -/
def dotNLine (attr : Tree α → Option String) (ind : String) (nm : String) (n : Tree α) : String :=
  ind ++ "\"" ++ esc nm ++ "\"" ++ optAttr (attr n) ++ ";"

def dotELine (etype : Tree α → Tree α → String) (eattr : Tree α → Tree α → Option String)
    (ind : String) (pn : String) (p : Tree α) (cn : String) (ch : Tree α) : String :=
  ind ++ "\"" ++ esc pn ++ "\" " ++ etype p ch ++ " \"" ++ esc cn ++ "\"" ++ optAttr (eattr p ch) ++ ";"

theorem dotNodes_eq (c : DotCfg α κ) (ind : String) (ns : List (Tree α)) (st : IdMap κ) :
    dotNodes c ind ns st = namedLines c.nodename (dotNLine c.nodeattr ind) ns st := by
  induction ns generalizing st with
  | nil => rfl
  | cons n ns ih => rw [dotNodes_cons, namedLines, ih]; rfl

theorem dotEdgesOf_eq (c : DotCfg α κ) (ind pn : String) (p : Tree α) (R : Tree α → Bool)
    (chs : List (Tree α)) (st : IdMap κ) :
    dotEdgesOf c ind pn p R chs st = namedLines c.nodename (dotELine c.edgetype c.edgeattr ind pn p) (chs.filter R) st := by
  induction chs generalizing st with
  | nil => rfl
  | cons ch chs ih =>
    cases h : R ch with
    | false => rw [dotEdgesOf_cons_skip _ _ _ _ _ _ _ _ h, List.filter_cons_of_neg (by simp [h]), ih]
    | true =>
      rw [dotEdgesOf_cons_keep _ _ _ _ _ _ _ _ h, List.filter_cons_of_pos h, namedLines, ih]; rfl

theorem dotEdges_eq (c : DotCfg α κ) (ind : String) (ps : List (Tree α)) (st : IdMap κ) :
    dotEdges c ind ps st =
      namedEdges c.nodename (fun p => p.kids.filter c.filter) (dotELine c.edgetype c.edgeattr ind) ps st := by
  induction ps generalizing st with
  | nil => rfl
  | cons p ps ih => rw [dotEdges_cons, namedEdges, dotEdgesOf_eq, ih]

theorem dotIter_gen (legacy : Bool) (c : DotCfg α κ) (t : Tree α) (st : IdMap κ) :
    dotIter legacy c t st =
      let r := genIter c.nodename (dotNLine c.nodeattr (spaces c.indent)) (fun p => p.kids.filter c.filter)
        (dotELine c.edgetype c.edgeattr (spaces c.indent)) (Iter.preIter c.filter c.stop c.maxlevel t)
        (Iter.preIter c.filter c.stop (edgeMax legacy c.maxlevel) t) st
      ([c.graph ++ " " ++ c.name ++ " {"] ++ c.options.map (fun o => spaces c.indent ++ o) ++ r.1 ++ ["}"],
        r.2) := by
  simp only [dotIter, genIter, dotNodes_eq, dotEdges_eq, List.append_assoc]

def merNLine (nodefunc : Tree α → String) (ind : String) (nm : String) (n : Tree α) : String :=
  ind ++ nm ++ nodefunc n

def merELine (edgefunc : Tree α → Tree α → String) (ind : String) (pn : String) (p : Tree α)
    (cn : String) (ch : Tree α) : String :=
  ind ++ pn ++ edgefunc p ch ++ cn

theorem merNodes_eq (c : MermaidCfg α κ) (ind : String) (ns : List (Tree α)) (st : IdMap κ) :
    merNodes c ind ns st = namedLines c.nodename (merNLine c.nodefunc ind) ns st := by
  induction ns generalizing st with
  | nil => rfl
  | cons n ns ih => rw [merNodes_cons, namedLines, ih]; rfl

theorem merEdgesOf_eq (c : MermaidCfg α κ) (ind pn : String) (p : Tree α)
    (chs : List (Tree α)) (st : IdMap κ) :
    merEdgesOf c ind pn p chs st =
      namedLines c.nodename (merELine c.edgefunc ind pn p) (chs.filter fun ch => c.filter ch && !c.stop ch) st := by
  induction chs generalizing st with
  | nil => rfl
  | cons ch chs ih =>
    cases h : (c.filter ch && !c.stop ch) with
    | false => rw [merEdgesOf_cons_skip c _ _ _ _ _ _ h,
        List.filter_cons_of_neg (p := fun ch => c.filter ch && !c.stop ch) (by simp [h]), ih]
    | true =>
      rw [merEdgesOf_cons_keep c _ _ _ _ _ _ h,
        List.filter_cons_of_pos (p := fun ch => c.filter ch && !c.stop ch) h, namedLines, ih]; rfl

theorem merEdges_eq (c : MermaidCfg α κ) (ind : String) (ps : List (Tree α)) (st : IdMap κ) :
    merEdges c ind ps st =
      namedEdges c.nodename (fun p => p.kids.filter fun ch => c.filter ch && !c.stop ch)
        (merELine c.edgefunc ind) ps st := by
  induction ps generalizing st with
  | nil => rfl
  | cons p ps ih => rw [merEdges_cons, namedEdges, merEdgesOf_eq, ih]

theorem merIter_gen (legacy : Bool) (c : MermaidCfg α κ) (t : Tree α) (st : IdMap κ) :
    merIter legacy c t st =
      let r := genIter c.nodename (merNLine c.nodefunc (spaces c.indent))
        (fun p => p.kids.filter fun ch => c.filter ch && !c.stop ch)
        (merELine c.edgefunc (spaces c.indent)) (Iter.preIter c.filter c.stop c.maxlevel t)
        (Iter.preIter c.filter c.stop (edgeMax legacy c.maxlevel) t) st
      ([c.graph ++ " " ++ c.name] ++ c.options.map (fun o => spaces c.indent ++ o) ++ r.1, r.2) := by
  simp only [merIter, genIter, merNodes_eq, merEdges_eq, List.append_assoc]

theorem dotNodes_pure (c : DotCfg α κ) (nm : Tree α → String) (ind : String)
    (ns : List (Tree α)) (st : IdMap κ) :
    dotNodes { c with nodename := NameFn.pure nm } ind ns st =
      (ns.map (dotNodeLine ind nm c.nodeattr), st) := by
  rw [dotNodes_eq, namedLines_pure]; rfl

theorem dotEdgesOf_pure (c : DotCfg α κ) (nm : Tree α → String) (ind : String) (p : Tree α)
    (R : Tree α → Bool) (chs : List (Tree α)) (st : IdMap κ) :
    dotEdgesOf { c with nodename := NameFn.pure nm } ind (nm p) p R chs st =
      ((chs.filter R).map (fun ch => dotEdgeLine ind nm c.edgetype c.edgeattr (p, ch)), st) := by
  rw [dotEdgesOf_eq, namedLines_pure]; rfl

theorem dotEdges_pure (c : DotCfg α κ) (nm : Tree α → String) (ind : String)
    (ps : List (Tree α)) (st : IdMap κ) :
    dotEdges { c with nodename := NameFn.pure nm } ind ps st =
      (ps.flatMap (fun p => (p.kids.filter c.filter).map
        (fun ch => dotEdgeLine ind nm c.edgetype c.edgeattr (p, ch))), st) := by
  rw [dotEdges_eq, namedEdges_pure]; rfl

theorem merNodes_pure (c : MermaidCfg α κ) (nm : Tree α → String) (ind : String)
    (ns : List (Tree α)) (st : IdMap κ) :
    merNodes { c with nodename := NameFn.pure nm } ind ns st =
      (ns.map (merNodeLine ind nm c.nodefunc), st) := by
  rw [merNodes_eq, namedLines_pure]; rfl

theorem merEdgesOf_pure (c : MermaidCfg α κ) (nm : Tree α → String) (ind : String) (p : Tree α)
    (chs : List (Tree α)) (st : IdMap κ) :
    merEdgesOf { c with nodename := NameFn.pure nm } ind (nm p) p chs st =
      ((chs.filter (fun ch => c.filter ch && !c.stop ch)).map
        (fun ch => merEdgeLine ind nm c.edgefunc (p, ch)), st) := by
  rw [merEdgesOf_eq, namedLines_pure]; rfl

theorem merEdges_pure (c : MermaidCfg α κ) (nm : Tree α → String) (ind : String)
    (ps : List (Tree α)) (st : IdMap κ) :
    merEdges { c with nodename := NameFn.pure nm } ind ps st =
      (ps.flatMap (fun p => (p.kids.filter (fun ch => c.filter ch && !c.stop ch)).map
        (fun ch => merEdgeLine ind nm c.edgefunc (p, ch))), st) := by
  rw [merEdges_eq, namedEdges_pure]; rfl

theorem edgeMax_false (m : Option Int) : edgeMax false m = lower m := rfl

end Export
namespace Spec

/-- `Spec.admittedNodes` with its `match` on `admitT` taken out, so that it can be rewritten under a `flatMap` -/
def optNodes {β : Type} : Option (Tree β) → List (Tree β)
  | none => []
  | some A => pre (decorate A)

theorem admittedNodes_eq (S : Tree α → Bool) (m : Option Int) (t : Tree α) :
    admittedNodes S m t = optNodes (admitT S m t) := by
  unfold admittedNodes optNodes
  cases admitT S m t <;> rfl

theorem optNodes_some {β : Type} (A : Tree β) : optNodes (some A) = pre (decorate A) := rfl
theorem optPre_some {β : Type} (A : Tree β) : optPre (some A) = pre A := rfl
theorem optPre_none {β : Type} : optPre (none : Option (Tree β)) = [] := rfl

theorem preL_admitL (S : Tree α → Bool) (m : Option Int) (cs : List (Tree α)) :
    Tree.preL (admitL S m cs) = cs.flatMap fun c => optPre (admitT S m c) := by
  simp only [Tree.preL_eq, admitL_eq S, List.flatMap_assoc, ← optPre_eq]

theorem preL_decorateL_admitL (S : Tree α → Bool) (m : Option Int) (cs : List (Tree α)) :
    Tree.preL (decorateL (admitL S m cs)) = cs.flatMap fun c => optNodes (admitT S m c) := by
  rw [Tree.preL_eq, decorateL_eq, List.flatMap_map, admitL_eq S, List.flatMap_assoc]
  exact flatMap_congr fun c _ => by cases admitT S m c <;> simp [optNodes]

/-- edges contributed by one admitted node (as in `edgePairs`) -/
def edgesOfAdm (F : Tree α → Bool) (P : Tree (Tree α)) : List (Tree α × Tree α) :=
  if F P.label then (P.kids.filter (fun C => F C.label)).map (fun C => (P.label, C.label)) else []

/-- edges contributed by one visited node of the edge pass (as in Mermaid) -/
def edgesOfNode (F S : Tree α → Bool) (p : Tree α) : List (Tree α × Tree α) :=
  (p.kids.filter (fun c => F c && !S c)).map (fun c => (p, c))

theorem edgesOfAdm_root (F S : Tree α → Bool) (m : Option Int) (hc : cut m = false) (t : Tree α) :
    edgesOfAdm F (node t (admitL S m t.kids)) = if F t then edgesOfNode F S t else [] := by
  unfold edgesOfAdm edgesOfNode
  simp only [label_node, kids_node]
  by_cases hF : F t = true
  · simp only [hF, if_true]
    have h := admitL_map_label S m hc t.kids
    have e1 : (List.filter (fun C => F C.label) (admitL S m t.kids)).map (fun C => (t, C.label)) =
        (((admitL S m t.kids).map label).filter F).map (fun c => (t, c)) := by
      rw [List.filter_map, List.map_map]; rfl
    rw [e1, h, Iter.getChildren, List.filter_filter]
  · simp [hF]

theorem cut_of_lower (m : Option Int) (h : cut (lower m) = false) : cut m = false := by
  cases m with
  | none => rfl
  | some k => simp [cut, lower] at h ⊢; omega

theorem edgesOfAdm_eq_edgePass (F S : Tree α → Bool) : ∀ (t : Tree α) (m : Option Int),
    (optNodes (admitT S m t)).flatMap (edgesOfAdm F) =
      ((optPre (admitT S (lower m) t)).filter F).flatMap (edgesOfNode F S) := by
  refine induction_on fun a cs ih m => ?_
  cases hs : S (node a cs) with
  | true => rw [admitT_of_stop S _ _ hs, admitT_of_stop S _ _ hs]; rfl
  | false =>
    cases hc' : cut (lower m) with
    | false =>
      -- the node is admitted on both sides; its admitted children are its non-`stop` children
      have h := edgesOfAdm_root F S (lower m) hc' (node a cs)
      rw [admitT_of_ok S m _ (cut_of_lower m hc') hs, admitT_of_ok S (lower m) _ hc' hs]
      simp only [optNodes_some, optPre_some, decorate, Tree.pre, kids_node, List.flatMap_cons,
        preL_decorateL_admitL, preL_admitL, List.flatMap_assoc, List.filter_cons, List.filter_flatMap,
        flatMap_congr fun c hc => ih c hc (lower m)] at h ⊢
      rw [h]
      cases F (node a cs) <;> simp only [if_true, if_false, Bool.false_eq_true, List.flatMap_cons,
        List.flatMap_assoc, List.nil_append]
    | true =>
      -- the last admitted level: no admitted children on the left, nothing at all on the right
      rw [admitT_of_cut S (lower m) _ hc']
      cases hc : cut m with
      | true => rw [admitT_of_cut S m _ hc]; rfl
      | false =>
        rw [admitT_of_ok S m _ hc hs, admitL_cut S _ hc']
        simp only [optNodes_some, optPre_none, decorate, decorateL, Tree.pre, Tree.preL, kids_node,
          edgesOfAdm, List.flatMap_cons, List.flatMap_nil, List.filter_nil, List.map_nil, ite_self,
          List.append_nil]

theorem edgePairs_eq_edgePass (F S : Tree α → Bool) (m : Option Int) (t : Tree α) :
    edgePairs F S m t = (preSpec F S (lower m) t).flatMap
      (fun p => (p.kids.filter (fun c => F c && !S c)).map (fun c => (p, c))) := by
  have := edgesOfAdm_eq_edgePass F S t m
  rw [← admittedNodes_eq] at this
  exact this

theorem preSpec_lower_subset (F S : Tree α → Bool) (m : Option Int) (t : Tree α) (x : Tree α)
    (h : x ∈ preSpec F S (lower m) t) : x ∈ preSpec F S m t := by
  unfold preSpec at h ⊢
  rw [List.mem_filter] at h ⊢
  obtain ⟨a, ha, hA⟩ := (Props.C06b.mem_admitted_iff S (lower m) t x).mp h.1
  exact ⟨(Props.C06b.mem_admitted_iff S m t x).mpr ⟨a, ha, hA.of_lower⟩, h.2⟩

theorem mem_pre_decorate {β : Type} : ∀ (A : Tree β),
    ∀ P ∈ pre (decorate A), P.label ∈ pre A ∧ ∀ C ∈ P.kids, C.label ∈ pre A := by
  refine induction_on fun a cs ih P hP => ?_
  rw [decorate, pre_eq_cons, decorateL_eq, kids_node, label_node, List.flatMap_map] at hP
  rw [pre_eq_cons, kids_node, label_node]
  have sub : ∀ c ∈ cs, ∀ x ∈ pre c, x ∈ a :: cs.flatMap pre := fun c hc x hx =>
    List.mem_cons_of_mem _ (List.mem_flatMap.mpr ⟨c, hc, hx⟩)
  rcases List.mem_cons.mp hP with rfl | hP
  · exact ⟨List.mem_cons_self, fun C hC => sub C hC _ (by rw [pre_eq_cons]; exact List.mem_cons_self)⟩
  · obtain ⟨c, hc, hPc⟩ := List.mem_flatMap.mp hP
    exact ⟨sub c hc _ (ih c hc P hPc).1, fun C hC => sub c hc _ ((ih c hc P hPc).2 C hC)⟩

end Spec
end Anytree
