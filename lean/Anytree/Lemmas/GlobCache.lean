import Anytree.Lemmas.Glob
/-!
The cache is transparent: `glob` threads the class-level pattern cache through every call; one
induction over the mirror (`globM_tr`) shows that it returns what the cache-free `globP` returns and
leaves a well-formed cache.
-/
namespace Anytree
namespace GlobL
open Tree Str Resolver
open Props.C08 (CacheInv matchC_transparent)
variable {α : Type}

/-- a run that threads the pattern cache is *transparent*: it returns `v`, whatever the cache held,
and leaves a well-formed cache -/
def Tr {β : Type} (x : β × Cache) (v : β) : Prop := ∃ k', x = (v, k') ∧ CacheInv k'

theorem Tr.iff {β : Type} {x : β × Cache} {v : β} : Tr x v ↔ x.1 = v ∧ CacheInv x.2 :=
  ⟨fun ⟨_, h, hk⟩ => h ▸ ⟨rfl, hk⟩, fun ⟨h, hk⟩ => ⟨x.2, by rw [← h], hk⟩⟩

theorem Tr.ret {β : Type} {k : Cache} (hk : CacheInv k) (v : β) : Tr (v, k) v := ⟨k, rfl, hk⟩

theorem matchC_tr (ic : Bool) (name pat : String) {k : Cache} (hk : CacheInv k) :
    Tr (matchC ic k name pat) (matchPure ic name pat) := Tr.iff.mpr (matchC_transparent ic k name pat hk)

theorem anyMatch_tr (ic : Bool) (pat : String) (names : List String) :
    ∀ {k}, CacheInv k → Tr (anyMatch ic pat names k) (names.any fun n => matchPure ic n pat) := by
  induction names with
  | nil => intro k hk; exact .ret hk _
  | cons n ns ih =>
    intro k hk
    obtain ⟨k1, hm, hk1⟩ := matchC_tr ic n pat hk
    rw [anyMatch, hm, List.any_cons]
    cases matchPure ic n pat with
    | true => exact .ret hk1 _
    | false => exact ih hk1

/-- `globM_tr` for the remainder `rem`: what the two loops assume of their recursive call -/
def GlobTr (legacy : Bool) (c : Ctx α) (rem : List String) : Prop :=
  ∀ s {k}, CacheInv k → Tr (globM legacy c rem s k) (globP legacy c rem s)

theorem starLoop_tr (legacy : Bool) (c : Ctx α) (rem : List String) (H : GlobTr legacy c rem)
    (l : List Addr) : ∀ acc {k}, CacheInv k →
      Tr (starLoop legacy c rem l acc k) (starP legacy (globP legacy c rem) l acc) := by
  induction l with
  | nil => intro acc k hk; rw [starLoop]; exact .ret hk _
  | cons s ss ih =>
    intro acc k hk
    obtain ⟨k', hg, hk'⟩ := H s hk
    rw [starLoop, starP, hg]
    rcases globP legacy c rem s with (_ | _ | _) | ms
    · cases legacy
      · exact ih acc hk'
      · exact .ret hk' _
    · exact ih acc hk'
    · cases legacy
      · exact ih acc hk'
      · exact .ret hk' _
    · exact ih _ hk'

theorem findLoop_tr (legacy : Bool) (c : Ctx α) (pat : String) (rem : List String)
    (H : GlobTr legacy c rem) (l : List Addr) : ∀ acc {k}, CacheInv k →
      Tr (findLoop legacy c pat rem l acc k)
        (findP (fun ch => matchPure c.ignorecase (c.name ch) pat) (isWildcard pat)
          (globP legacy c rem) l acc) := by
  generalize hw : isWildcard pat = w
  induction l with
  | nil => intro acc k hk; rw [findLoop]; exact .ret hk _
  | cons ch chs ih =>
    intro acc k hk
    obtain ⟨k1, hm, hk1⟩ := matchC_tr c.ignorecase (c.name ch) pat hk
    rw [findLoop, findP, hm]
    cases matchPure c.ignorecase (c.name ch) pat with
    | false => exact ih acc hk1
    | true =>
      cases rem with
      | nil => exact ih _ hk1
      | cons r rs =>
        obtain ⟨k2, hg, hk2⟩ := H ch hk1
        simp only [List.isEmpty_cons, Bool.false_eq_true, if_false, if_true, hg]
        cases globP legacy c (r :: rs) ch with
        | ok ms => exact ih _ hk2
        | error e =>
          simp only [hw]
          cases w
          · exact .ret hk2 _
          · exact ih acc hk2

theorem globM_tr (legacy : Bool) (c : Ctx α) (parts : List String) : GlobTr legacy c parts := by
  induction parts with
  | nil => intro a k hk; rw [globM]; exact .ret hk _
  | cons name rem ih =>
    intro a k hk
    rw [globM, globP, ResolverLemmas.comp_ite, ResolverLemmas.comp_ite]
    cases ResolverLemmas.comp name with
    | up =>
      simp only []
      cases a
      · cases c.relax <;> exact .ret hk _
      · exact ih _ hk
    | stay => exact ih _ hk
    | deep => exact starLoop_tr legacy c rem ih _ [] hk
    | named =>
      simp only []
      obtain ⟨k', hf, hk'⟩ := findLoop_tr legacy c name rem ih (c.children a) [] hk
      rw [hf]
      cases findP (fun ch => matchPure c.ignorecase (c.name ch) name) (isWildcard name)
        (globP legacy c rem) (c.children a) [] with
      | error e => exact .ret hk' _
      | ok ms =>
        simp only []
        by_cases h6 : (ms.isEmpty && !isWildcard name && !c.relax) = true
        · simp only [h6, if_true]
          cases legacy
          · obtain ⟨k'', ha, hk''⟩ := anyMatch_tr c.ignorecase name ((c.children a).map c.name) hk'
            simp only [Bool.false_eq_true, if_false, ha, List.any_map, Function.comp_def]
            cases (c.children a).any fun ch => matchPure c.ignorecase (c.name ch) name <;> exact .ret hk'' _
          · exact .ret hk' _
        · simp only [h6, Bool.false_eq_true, if_false]; exact .ret hk' _

theorem globM_fst (legacy : Bool) (c : Ctx α) (parts : List String) (a : Addr) {k : Cache}
    (hk : CacheInv k) : (globM legacy c parts a k).1 = globP legacy c parts a :=
  (Tr.iff.mp (globM_tr legacy c parts a hk)).1

theorem glob_tr (legacy : Bool) (c : Ctx α) (a : Addr) (path : String) {k : Cache}
    (hk : CacheInv k) : Tr (Resolver.glob legacy c a path k) (globTopP legacy c a path) := by
  unfold Resolver.glob globTopP
  simp only
  by_cases h1 : startsWith path c.sep = true
  · simp only [h1, if_true]
    rcases (split c.sep path).drop 1 with _ | ⟨p0, rest⟩
    · exact .ret hk _
    · simp only
      by_cases h2 : (p0 == "") = true
      · simp only [h2, if_true]; cases c.relax <;> exact .ret hk _
      · simp only [h2, Bool.false_eq_true, if_false]
        obtain ⟨k1, hm, hk1⟩ := matchC_tr c.ignorecase (c.name []) p0 hk
        rw [hm]
        cases matchPure c.ignorecase (c.name []) p0 with
        | false => cases c.relax <;> exact .ret hk1 _
        | true => exact globM_tr legacy c rest [] hk1
  · simp only [h1, Bool.false_eq_true, if_false]; exact globM_tr legacy c _ a hk

end GlobL
end Anytree
