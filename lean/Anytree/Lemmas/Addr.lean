import Anytree.Model.Nav
import Anytree.Spec.Nav
import Anytree.Lemmas.Tree
/-!
Addresses as lists: induction from the right, the climbing loops of `Model/Nav.lean` against
`Spec.prefixes`, the longest common prefix, and `commonancestors` as an iterated longest common
prefix.  (`WalkerLemmas.mem_prefixes` stands here with the other facts about `prefixes`, under its own name.)
-/
namespace Anytree
open Tree

theorem snoc_cases {β : Type} (a : List β) : a = [] ∨ ∃ b i, a = b ++ [i] :=
  (List.eq_nil_or_concat a).imp_right fun ⟨b, i, h⟩ => ⟨b, i, by simpa using h⟩

theorem snoc_induction {β : Type} {P : List β → Prop} (h0 : P [])
    (h1 : ∀ b i, P b → P (b ++ [i])) (a : List β) : P a := by
  rw [← List.reverse_reverse a]
  induction a.reverse with
  | nil => exact h0
  | cons i b ih => rw [List.reverse_cons]; exact h1 _ _ ih

namespace Nav

theorem climb_nil : climb [] = [[]] := by rw [climb]; simp

theorem climb_concat (b : Addr) (i : Nat) : climb (b ++ [i]) = (b ++ [i]) :: climb b := by
  rw [climb]; simp

theorem root_nil : root [] = [] := by rw [root]; simp

theorem root_concat (b : Addr) (i : Nat) : root (b ++ [i]) = root b := by
  rw [root]; simp

theorem length_climb (a : Addr) : (climb a).length = a.length + 1 := by
  induction a using snoc_induction with
  | h0 => simp [climb_nil]
  | h1 b i ih => simp [climb_concat, ih]

end Nav

namespace Spec

theorem prefixes_eq_cons_drop (b : Addr) : prefixes b = [] :: (prefixes b).drop 1 := by
  cases b <;> simp [prefixes]

theorem prefixes_append (k rest : Addr) :
    prefixes (k ++ rest) = prefixes k ++ ((prefixes rest).drop 1).map (k ++ ·) := by
  induction k with
  | nil =>
    simp only [List.nil_append, prefixes]
    conv => lhs; rw [prefixes_eq_cons_drop rest]
    simp
  | cons x xs ih =>
    simp [prefixes, ih, List.map_map, Function.comp_def]

theorem prefixes_cons_drop (i : Nat) (b : Addr) :
    (prefixes (i :: b)).drop 1 = [i] :: ((prefixes b).drop 1).map (i :: ·) := by
  simp only [prefixes, List.drop_succ_cons, List.drop_zero]
  conv => lhs; rw [prefixes_eq_cons_drop b]
  simp

theorem prefixes_concat (b : Addr) (i : Nat) : prefixes (b ++ [i]) = prefixes b ++ [b ++ [i]] :=
  prefixes_append b [i]

theorem length_prefixes (a : Addr) : (prefixes a).length = a.length + 1 := by
  induction a with
  | nil => simp [prefixes]
  | cons x xs ih => simp [prefixes, ih]

theorem prefixes_getElem (a : Addr) : ∀ (k : Nat) (h : k < (prefixes a).length),
    (prefixes a)[k] = a.take k := by
  induction a with
  | nil => intro k h; simp [prefixes] at h ⊢;
  | cons x xs ih =>
    intro k h
    cases k with
    | zero => simp [prefixes]
    | succ k => simp [prefixes, ih]

theorem getLast?_prefixes (a : Addr) : (prefixes a).getLast? = some a := by
  rw [List.getLast?_eq_getElem?, List.getElem?_eq_getElem (by simp [length_prefixes]),
    prefixes_getElem]
  simp [length_prefixes]

theorem prefixes_ne_nil (a : Addr) : prefixes a ≠ [] := by
  cases a <;> simp [prefixes]

theorem pairwise_prefixes (a : Addr) : (prefixes a).Pairwise (fun p q => p.length < q.length) := by
  induction a with
  | nil => simp [prefixes]
  | cons i is ih =>
    simp only [prefixes, List.pairwise_cons]
    refine ⟨?_, ?_⟩
    · intro q hq
      obtain ⟨r, _, rfl⟩ := List.mem_map.1 hq
      simp
    · exact List.Pairwise.map _ (fun p q h => by simpa using h) ih

theorem nodup_prefixes (a : Addr) : (prefixes a).Nodup :=
  (pairwise_prefixes a).imp (fun h e => by rw [e] at h; exact Nat.lt_irrefl _ h)

end Spec

namespace WalkerLemmas
open Spec

theorem mem_prefixes {a p : Addr} (h : p ∈ prefixes a) : ∃ k, k ≤ a.length ∧ p = a.take k := by
  obtain ⟨k, hk, rfl⟩ := List.getElem_of_mem h
  refine ⟨k, ?_, prefixes_getElem a k hk⟩
  rw [length_prefixes] at hk; exact Nat.le_of_lt_succ hk

end WalkerLemmas

theorem Nav.path_eq_prefixes (a : Addr) : Nav.path a = Spec.prefixes a := by
  induction a using snoc_induction with
  | h0 => simp [Nav.path, Nav.climb_nil, Spec.prefixes]
  | h1 b i ih =>
    simp only [Nav.path] at ih
    simp [Nav.path, Nav.climb_concat, Spec.prefixes_concat, ih]

theorem Nav.root_eq_nil (a : Addr) : Nav.root a = [] := by
  induction a using snoc_induction with
  | h0 => exact Nav.root_nil
  | h1 b i ih => rw [Nav.root_concat, ih]

section lcp
variable {β : Type} [DecidableEq β]

theorem Spec.lcp2_nil_right (l : List β) : Spec.lcp2 l [] = [] := by
  cases l <;> simp [Spec.lcp2]

theorem Spec.lcp2_nil_left (l : List β) : Spec.lcp2 [] l = [] := by
  simp [Spec.lcp2]

theorem Spec.lcp2_prefix_left (a b : List β) : Spec.lcp2 a b <+: a := by
  induction a generalizing b with
  | nil => simp [Spec.lcp2]
  | cons x xs ih =>
    cases b with
    | nil => simp [Spec.lcp2]
    | cons y ys =>
      simp only [Spec.lcp2]
      by_cases h : x = y
      · simp only [h, if_true]; exact (List.prefix_cons_inj y).mpr (ih ys)
      · simp [h]

theorem Spec.prefix_lcp2 (p a b : List β) (ha : p <+: a) (hb : p <+: b) : p <+: Spec.lcp2 a b := by
  induction p generalizing a b with
  | nil => simp
  | cons z zs ih =>
    cases a with
    | nil => simp at ha
    | cons x xs =>
      cases b with
      | nil => simp at hb
      | cons y ys =>
        rw [List.cons_prefix_cons] at ha hb
        obtain ⟨rfl, ha⟩ := ha
        obtain ⟨rfl, hb⟩ := hb
        simp only [Spec.lcp2, if_true]
        exact (List.prefix_cons_inj z).mpr (ih xs ys ha hb)

theorem Spec.lcp2_comm (a b : List β) : Spec.lcp2 a b = Spec.lcp2 b a := by
  induction a generalizing b with
  | nil => cases b <;> simp [Spec.lcp2]
  | cons x xs ih =>
    cases b with
    | nil => simp [Spec.lcp2]
    | cons y ys =>
      simp only [Spec.lcp2]
      by_cases h : x = y
      · subst h; simp [ih ys]
      · have h' : ¬ y = x := fun e => h e.symm
        simp [h, h']

theorem Spec.lcp2_prefix_right (a b : List β) : Spec.lcp2 a b <+: b := by
  rw [Spec.lcp2_comm]; exact Spec.lcp2_prefix_left b a

theorem Spec.lcpAll_cons_cons (l l' : List β) (ls : List (List β)) :
    Spec.lcpAll (l :: l' :: ls) = Spec.lcp2 l (Spec.lcpAll (l' :: ls)) := by
  simp [Spec.lcpAll]

theorem Nav.commonAncestors_nil : Nav.commonAncestors ([] : List (List β)) = [] := by
  simp [Nav.commonAncestors, Nav.zipStar]

theorem Nav.commonAncestors_nil_cons (rest : List (List β)) :
    Nav.commonAncestors ([] :: rest) = [] := by
  simp [Nav.commonAncestors, Nav.zipStar, Nav.zipStar.go]

/-- one round of `zip(*ancestors)`: the first list's head is kept iff every other list starts with it -/
theorem Nav.commonAncestors_cons_cons (x : β) (xs : List β) (rest : List (List β)) :
    Nav.commonAncestors ((x :: xs) :: rest) =
      if rest.all (fun l => l.head? == some x) then
        x :: Nav.commonAncestors (xs :: rest.map List.tail) else [] := by
  have h : rest.all (fun l => l.head? == some x) =
      (rest.all (fun l => !l.isEmpty) && (rest.filterMap List.head?).all (fun q => decide (x = q))) := by
    induction rest with
    | nil => rfl
    | cons l ls ih =>
      cases l with
      | nil => simp
      | cons y ys =>
        have e : (y == x) = decide (x = y) := BEq.comm
        simp [ih, e, Bool.and_left_comm]
  simp only [Nav.commonAncestors, Nav.zipStar, Nav.zipStar.go, h]
  by_cases h1 : (rest.all (fun l => !l.isEmpty)) = true
  · by_cases h2 : ((rest.filterMap List.head?).all (fun q => decide (x = q))) = true
    · simp only [h1, h2, Bool.and_self, if_true, List.takeWhile_cons, List.filterMap_cons,
        List.head?_cons]
    · simp [h1, h2]
  · simp [h1]

theorem Nav.commonAncestors_singleton (l : List β) : Nav.commonAncestors [l] = l := by
  induction l with
  | nil => exact Nav.commonAncestors_nil_cons []
  | cons x xs ih => rw [Nav.commonAncestors_cons_cons]; simpa using ih

theorem Nav.commonAncestors_step (l l' : List β) (ls : List (List β)) :
    Nav.commonAncestors (l :: l' :: ls) = Spec.lcp2 l (Nav.commonAncestors (l' :: ls)) := by
  induction l generalizing l' ls with
  | nil => rw [Nav.commonAncestors_nil_cons, Spec.lcp2_nil_left]
  | cons x xs ih =>
    cases l' with
    | nil =>
      rw [Nav.commonAncestors_nil_cons, Spec.lcp2_nil_right, Nav.commonAncestors_cons_cons]
      simp
    | cons y ys =>
      rw [Nav.commonAncestors_cons_cons x, Nav.commonAncestors_cons_cons y]
      by_cases hxy : x = y
      · -- the same head: both sides ask whether the remaining lists start with it too
        subst hxy
        by_cases h : ls.all (fun l => l.head? == some x) = true
        · simp only [List.all_cons, List.head?_cons, beq_self_eq_true, Bool.true_and, h, if_true,
            List.map_cons, List.tail_cons, Spec.lcp2, ih]
        · simp [h, Spec.lcp2_nil_right]
      · have hyx : ¬ y = x := fun e => hxy e.symm
        by_cases h : ls.all (fun l => l.head? == some y) = true <;> simp [h, hxy, hyx, Spec.lcp2]

end lcp

end Anytree
