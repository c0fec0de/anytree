import Anytree.Lemmas.Plan
import Anytree.Lemmas.SpecForest
/-!
The structural calls as plans: from a consistent forest the parent setter, the children deleter and the
`try` block of the children setter are plans (`IsPlan.setParent`, `IsPlan.delChildren`,
`IsPlan.attachPhase`), under every fault schedule and with every amount of fuel; one level of the
children setter is the two plans and the restore (`setChildrenNodes_succ`).  With each plan: that it
matches the closed-form specification (`*_spec`, a `Plan.Matches`), what all its forests satisfy
(`*_chained`, `*_all`) and what it refuses with.
-/
namespace Anytree

/-- a node argument that exists -/
def ArgOk (k : Nat) : Option Arg → Prop
  | some (.node p) => p < k
  | _ => True

instance (k : Nat) (v : Option Arg) : Decidable (ArgOk k v) := by
  match v with
  | some (.node p) => exact inferInstanceAs (Decidable (p < k))
  | some .nonNode => exact isTrue trivial
  | none => exact isTrue trivial

def detachPlan (s : Forest) (n : Nat) : Plan :=
  match s.parent n with
  | none => .skip s
  | some q => ⟨[⟨s, .preDetach, n, [q]⟩, ⟨Spec.detached s n, .postDetach, n, [q]⟩],
      Spec.detached s n, .ok ()⟩

def attachPlan (s : Forest) (n p : Nat) : Plan :=
  ⟨[⟨s, .preAttach, n, [p]⟩, ⟨Spec.attached s n p, .postAttach, n, [p]⟩], Spec.attached s n p, .ok ()⟩

/-- the plan of `n.parent = p` when the setter's checks pass -/
def movePlan (s : Forest) (n p : Nat) : Plan :=
  (detachPlan s n).append (attachPlan (Spec.detached s n) n p)

def setParentPlan (fl : Flavor) (s : Forest) (fuel n : Nat) : Option Arg → Plan
  | some .nonNode => .refuse s (match fl with | .nm => .treeError | .light => .unmodelled)
  | none => detachPlan s n
  | some (.node p) =>
    if s.parent n = some p then .skip s
    else if p = n then .refuse s .loopError
    else match onChain s n fuel p with
      | none => .refuse s .diverged
      | some true => .refuse s .loopError
      | some false => movePlan s n p

theorem detachPlan_spec (s : Forest) (n : Nat) :
    (detachPlan s n).Matches (.ok ()) (Spec.detached s n) (Spec.detachLog s n) := by
  unfold detachPlan Spec.detachLog
  cases hp : s.parent n with
  | none => rw [Spec.detached_root hp]; exact .skip s
  | some q => exact ⟨rfl, rfl, rfl⟩

theorem movePlan_spec (s : Forest) (n p : Nat) :
    (movePlan s n p).Matches (.ok ()) (Spec.moved s n p)
      (Spec.detachLog s n ++ Spec.attachLog (Spec.detached s n) n p) :=
  (detachPlan_spec s n).append ⟨rfl, rfl, rfl⟩

/-- the plan of `n.parent = v`, with the outcome of the setter's checks that makes it that plan -/
inductive SetParentShape (fl : Flavor) (s : Forest) (fuel n : Nat) : Option Arg → Plan → Prop
  | nonNode : SetParentShape fl s fuel n (some .nonNode)
      (.refuse s (match fl with | .nm => .treeError | .light => .unmodelled))
  | detach : SetParentShape fl s fuel n none (detachPlan s n)
  | same {p : Nat} (h : s.parent n = some p) : SetParentShape fl s fuel n (some (.node p)) (.skip s)
  | loop {p : Nat} (hne : s.parent n ≠ some p) (hbad : ∃ j, s.up j p = some n) :
      SetParentShape fl s fuel n (some (.node p)) (.refuse s .loopError)
  | dry {p : Nat} (hne : s.parent n ≠ some p) (hdry : onChain s n fuel p = none) :
      SetParentShape fl s fuel n (some (.node p)) (.refuse s .diverged)
  | move {p : Nat} (hne : s.parent n ≠ some p) (hno : ∀ j, s.up j p ≠ some n) :
      SetParentShape fl s fuel n (some (.node p)) (movePlan s n p)

theorem setParentPlan_shape (fl : Flavor) (s : Forest) (fuel n : Nat) (v : Option Arg) :
    SetParentShape fl s fuel n v (setParentPlan fl s fuel n v) := by
  match v with
  | some .nonNode => exact .nonNode
  | none => exact .detach
  | some (.node p) =>
    simp only [setParentPlan]
    by_cases hsame : s.parent n = some p
    · rw [if_pos hsame]; exact .same hsame
    · rw [if_neg hsame]
      by_cases hpn : p = n
      · rw [if_pos hpn]; exact .loop hsame ⟨0, by rw [hpn]; rfl⟩
      · rw [if_neg hpn]
        cases hoc : onChain s n fuel p with
        | none => exact .dry hsame hoc
        | some b =>
          cases b with
          | true => exact .loop hsame (onChain_true fuel p hoc)
          | false => exact .move hsame (onChain_false fuel p hoc)

theorem setParentPlan_spec {s : Forest} (h : Inv s) (fl : Flavor) {fuel : Nat} (n : Nat)
    {v : Option Arg} (hv : ArgOk s.n v) (hfuel : s.n < fuel) :
    (setParentPlan fl s fuel n v).Matches (Spec.setParent fl s n v).res (Spec.setParent fl s n v).f
      (Spec.setParent fl s n v).log := by
  match v, hv with
  | some .nonNode, _ => cases fl <;> exact ⟨rfl, rfl, rfl⟩
  | none, _ => exact detachPlan_spec s n
  | some (.node p), hp =>
    simp only [setParentPlan, Spec.setParent]
    by_cases hsame : s.parent n = some p
    · rw [if_pos hsame, if_pos hsame]; exact .skip s
    · by_cases hpn : p = n
      · subst hpn; simp only [hsame, if_false, if_true, decide_true, Bool.true_or]; exact ⟨rfl, rfl, rfl⟩
      -- with enough fuel the loop check answers what the specification's ancestor test answers
      · simp only [hsame, hpn, if_false, h.onChain_eq hp hfuel hpn, decide_false, Bool.false_or]
        cases Spec.isAnc s n p
        · exact movePlan_spec s n p
        · exact ⟨rfl, rfl, rfl⟩

theorem setParentPlan_move {s : Forest} (h : Inv s) (fl : Flavor) {fuel x n : Nat} (hn : n < s.n)
    (hfuel : s.n < fuel) (hne : s.parent x ≠ some n) (hno : ∀ j, s.up j n ≠ some x) :
    setParentPlan fl s fuel x (some (.node n)) = movePlan s x n := by
  have hnx : n ≠ x := fun e => hno 0 (e ▸ rfl)
  simp only [setParentPlan, hne, hnx, if_false, h.onChain_false_of hn hfuel hno]

theorem setParentPlan_loop {s : Forest} (h : Inv s) (fl : Flavor) {fuel x n : Nat} (hn : n < s.n)
    (hfuel : s.n < fuel) (hne : s.parent x ≠ some n) (hbad : ∃ j, s.up j n = some x) :
    setParentPlan fl s fuel x (some (.node n)) = .refuse s .loopError := by
  simp only [setParentPlan, hne, if_false, h.onChain_true_of hn hfuel hbad]
  split <;> rfl

theorem IsPlan.detach (c : Cfg) (n : Nat) {s : Forest} (h : Inv s) :
    IsPlan c (detach c n (s.parent n)) s (detachPlan s n) := by
  unfold detachPlan
  cases hp : s.parent n with
  | none => exact .ok
  | some q =>
    have hm : IsPlan c (M.modify fun f => f.detachRaw n q) s (.skip (Spec.detached s n)) :=
      Spec.detached_eq hp ▸ .modify _
    exact (((IsPlan.hook _ _ _).seq (.assert (by exact List.contains_iff_mem.2 ((h.bidir n q).1 hp)))).seq hm).seq
      (.hook _ _ _)

theorem IsPlan.attach (c : Cfg) (n p : Nat) {s : Forest} (h : Inv s) (hp : s.parent n ≠ some p) :
    IsPlan c (attach c n (some p)) s (attachPlan s n p) :=
  have hm : IsPlan c (M.modify fun f => f.attachRaw n p) s (.skip (Spec.attached s n p)) :=
    Spec.attached_eq s n p ▸ .modify _
  (((IsPlan.hook _ _ _).seq (.assert (by
      rw [Bool.not_eq_true', ← Bool.not_eq_true, List.contains_iff_mem]
      exact fun hm => hp ((h.bidir n p).2 hm)))).seq hm).seq
    (.hook _ _ _)

theorem IsPlan.setParent (c : Cfg) (fuel n : Nat) (v : Option Arg) {s : Forest} (h : Inv s) :
    IsPlan c (setParent c fuel n v) s (setParentPlan c.fl s fuel n v) := by
  rintro w rfl
  match v with
  | some .nonNode =>
    simp only [Anytree.setParent, setParentPlan]
    cases c.fl <;> exact IsPlan.throw _ w rfl
  | none =>
    simp only [Anytree.setParent, setParentPlan]
    by_cases hp : w.f.parent n = none
    · rw [if_pos hp, detachPlan, hp]; exact IsPlan.ok w rfl
    · rw [if_neg hp]; exact IsPlan.detach c n h w rfl
  | some (.node p) =>
    simp only [Anytree.setParent, setParentPlan]
    by_cases hsame : w.f.parent n = some p
    · rw [if_pos hsame, if_pos hsame]; exact IsPlan.ok w rfl
    · rw [if_neg hsame, if_neg hsame]
      simp only [M.seq, checkLoop]
      by_cases hpn : p = n
      · rw [if_pos hpn, if_pos hpn]; exact IsPlan.throw _ w rfl
      · rw [if_neg hpn, if_neg hpn]
        cases hoc : onChain w.f n fuel p with
        | none => exact IsPlan.throw _ w rfl
        | some b =>
          cases b with
          | true => exact IsPlan.throw _ w rfl
          | false =>
            refine ((IsPlan.detach c n h).seq ?_) w rfl
            rw [(detachPlan_spec w.f n).final]
            exact .attach c n p (Spec.inv_detached h n) (by rw [Spec.detached_parent]; simp)

theorem loop_detachPlan_spec (s : Forest) (cs : List Nat) :
    (Plan.loop detachPlan s cs).Matches (.ok ()) (Spec.detachAll s cs).1 (Spec.detachAll s cs).2 := by
  induction cs generalizing s with
  | nil => exact .skip s
  | cons x xs ih =>
    have h := detachPlan_spec s x
    rw [Plan.loop, h.final]
    exact h.append (ih _)

def delChildrenPlan (s : Forest) (n : Nat) : Plan :=
  ((Plan.call s .preDetachChildren n (s.children n)).append
    (Plan.loop detachPlan s (s.children n))).append
      (.call (Spec.detachAll s (s.children n)).1 .postDetachChildren n (s.children n))

theorem delChildrenPlan_spec (s : Forest) (n : Nat) :
    (delChildrenPlan s n).Matches (.ok ()) (Spec.delChildren s n).f (Spec.delChildren s n).log :=
  ((Plan.Matches.call ..).append (loop_detachPlan_spec s _)).append (.call ..)

theorem IsPlan.detachLoop (c : Cfg) (fuel : Nat) (cs : List Nat) {s : Forest} (h : Inv s) :
    IsPlan c (Anytree.forM' cs fun ch => Anytree.setParent c fuel ch none) s (.loop detachPlan s cs) :=
  .forM' (I := Inv) _ _ (fun s x _ hs => ⟨.setParent c fuel x none hs,
    (detachPlan_spec s x).final ▸ Spec.inv_detached hs x⟩) h

theorem IsPlan.delChildren (c : Cfg) (fuel n : Nat) {s : Forest} (h : Inv s) :
    IsPlan c (Anytree.delChildren c fuel n) s (delChildrenPlan s n) := by
  rintro w rfl
  have hfin : ((Plan.call w.f .preDetachChildren n (w.f.children n)).append
      (Plan.loop detachPlan w.f (w.f.children n))).final = (Spec.detachAll w.f (w.f.children n)).1 :=
    (loop_detachPlan_spec w.f (w.f.children n)).final
  have hloop : IsPlan c _ w.f (.loop detachPlan w.f (w.f.children n)) := .detachLoop c fuel _ h
  refine (((IsPlan.hook _ _ _).seq hloop).seq_assert (fun _ => ?_) |>.seq ?_) w rfl
  · rw [hfin, Spec.detachAll_children h]
    simp
  · rw [hfin]; exact .hook _ _ _

/-- the invariant, with the number of existing objects pinned: hypotheses `n < k` must survive every
step of a plan without re-deriving `f.n` -/
structure InvSize (k : Nat) (f : Forest) : Prop where
  inv : Inv f
  size : f.n = k

/-- consistent over `k` objects, and the ancestor chain of `n` is `ch` -/
structure Chained (k n : Nat) (ch : Nat → Option Nat) (f : Forest) : Prop extends InvSize k f where
  chain : ∀ j, f.up j n = ch j

theorem InvSize.detached {k : Nat} {s : Forest} (h : InvSize k s) (n : Nat) : InvSize k (Spec.detached s n) :=
  ⟨Spec.inv_detached h.inv n, (Spec.detached_n s n).trans h.size⟩

theorem detachPlan_keeps {G : Forest → Prop} {s : Forest} {n : Nat} (h : G s)
    (hd : G (Spec.detached s n)) : (detachPlan s n).All G := by
  unfold detachPlan
  split
  · exact .skip h
  · exact ((Plan.All.call h ..).append (.skip hd)).append (.call hd ..)

theorem detachPlan_all {k : Nat} {s : Forest} (h : InvSize k s) (n : Nat) : (detachPlan s n).All (InvSize k) :=
  detachPlan_keeps h (h.detached n)

theorem Chained.detached {k n x : Nat} {ch : Nat → Option Nat} {s : Forest} (h : Chained k n ch s)
    (hx : ∀ j, ch j ≠ some x) : Chained k n ch (Spec.detached s x) :=
  ⟨h.toInvSize.detached x, fun j => by
    rw [Spec.up_detached_avoid fun j => by rw [h.chain]; exact hx j]; exact h.chain j⟩

theorem detachPlan_chained {k n x : Nat} {ch : Nat → Option Nat} {s : Forest} (h : Chained k n ch s)
    (hx : ∀ j, ch j ≠ some x) : (detachPlan s x).All (Chained k n ch) :=
  detachPlan_keeps h (h.detached hx)

/-- the children of `n` are not on its chain, so detaching them keeps it -/
theorem delChildrenPlan_chained {k n : Nat} {ch : Nat → Option Nat} {s : Forest}
    (h : Chained k n ch s) : (delChildrenPlan s n).All (Chained k n ch) := by
  have hl := (Plan.loop_all (P := detachPlan) (S := fun _ => True) (s.children n) s
    (fun _ x hx hs => ⟨detachPlan_chained hs fun j => by
      rw [← h.chain j]; exact h.inv.child_not_on_chain hx j, fun _ _ => trivial⟩) h).1
  refine ((Plan.All.call h ..).append hl).append (.call ?_ ..)
  rw [← (loop_detachPlan_spec s _).final]; exact hl.2

theorem setParentPlan_chained {k n x : Nat} {ch : Nat → Option Nat} {s : Forest}
    (h : Chained k n ch s) (fl : Flavor) (fuel : Nat) (hx : x < k) (hn : n < k) :
    (setParentPlan fl s fuel x (some (.node n))).All (Chained k n ch) ∧
    (setParentPlan fl s fuel x (some (.node n))).Refuses fun e =>
      (e = .loopError ∧ ∃ j, ch j = some x) ∨ (e = .diverged ∧ ¬k < fuel) := by
  have hi := h.inv
  have hk := h.size
  have hc := h.chain
  have hs := setParentPlan_shape fl s fuel x (some (.node n))
  generalize setParentPlan fl s fuel x (some (.node n)) = P at hs
  cases hs with
  | same _ => exact ⟨.skip h, .of_ok rfl⟩
  | loop _ hbad =>
    exact ⟨.refuse h _, fun e he => by
      cases he; obtain ⟨j, hj⟩ := hbad; exact Or.inl ⟨rfl, j, by rw [← hc j]; exact hj⟩⟩
  | dry _ hdry =>
    exact ⟨.refuse h _, fun e he => by
      cases he; exact Or.inr ⟨rfl, fun hf => hi.onChain_ne_none x (hk ▸ hn) (hk ▸ hf) hdry⟩⟩
  | move hne hno =>
    have hx' : ∀ j, ch j ≠ some x := fun j => by rw [← hc j]; exact hno j
    have hd := h.detached hx'
    have R := Spec.moved_props hi (hk ▸ hx) (hk ▸ hn) (fun hm => hne ((hi.bidir x n).2 hm)) hno
    have hm : Chained k n ch (Spec.moved s x n) :=
      ⟨⟨R.inv, R.size.trans hk⟩, fun j => (R.chain j).trans (hc j)⟩
    exact ⟨(detachPlan_chained h hx').append
      (((Plan.All.call hd ..).append (.skip hm)).append (.call hm ..)),
      .of_ok (movePlan_spec s x n).res⟩

/-- **C01 for the parent setter**: every forest of its plan is consistent -/
theorem setParentPlan_all {k : Nat} {s : Forest} (h : InvSize k s) (fl : Flavor) (fuel : Nat) {n : Nat}
    (hn : n < k) {v : Option Arg} (hv : ArgOk k v) : (setParentPlan fl s fuel n v).All (InvSize k) :=
  match v, hv with
  | some .nonNode, _ => .refuse h _
  | none, _ => detachPlan_all h n
  | some (.node p), hp =>
    (setParentPlan_chained (ch := fun j => s.up j p) ⟨h, fun _ => rfl⟩ fl fuel hn hp).1.mono
      fun _ h => h.toInvSize

theorem delChildrenPlan_all {k : Nat} {s : Forest} (h : InvSize k s) (n : Nat) :
    (delChildrenPlan s n).All (InvSize k) :=
  (delChildrenPlan_chained (ch := fun j => s.up j n) ⟨h, fun _ => rfl⟩).mono fun _ h => h.toInvSize

def attachLoopPlan (fl : Flavor) (fuel n : Nat) : Forest → List Nat → Plan :=
  Plan.loop fun s x => setParentPlan fl s fuel x (some (.node n))

def attachPhasePlan (fl : Flavor) (s : Forest) (fuel n : Nat) (xs : List Nat) : Plan :=
  ((Plan.call s .preAttachChildren n xs).append (attachLoopPlan fl fuel n s xs)).append
    (.call (attachLoopPlan fl fuel n s xs).final .postAttachChildren n xs)

theorem setParentPlan_ok {fl : Flavor} {s : Forest} {fuel x n : Nat} (hne : s.parent x ≠ some n)
    (hok : (setParentPlan fl s fuel x (some (.node n))).res = .ok ()) :
    (setParentPlan fl s fuel x (some (.node n))).final = Spec.moved s x n := by
  have hs := setParentPlan_shape fl s fuel x (some (.node n))
  generalize setParentPlan fl s fuel x (some (.node n)) = P at hs hok ⊢
  cases hs with
  | same h => exact absurd h hne
  | loop _ _ => cases hok
  | dry _ _ => cases hok
  | move _ _ => exact (movePlan_spec s x n).final

theorem attachLoopPlan_ok {k : Nat} (fl : Flavor) (fuel : Nat) {n : Nat} (hn : n < k) :
    ∀ (xs : List Nat) (s : Forest), InvSize k s → xs.Nodup → (∀ x ∈ xs, x < k ∧ x ∉ s.children n) →
      (attachLoopPlan fl fuel n s xs).res = .ok () →
      (attachLoopPlan fl fuel n s xs).final.children n = s.children n ++ xs := by
  intro xs
  induction xs with
  | nil => intro s _ _ _ _; simp [attachLoopPlan, Plan.loop, Plan.skip]
  | cons x xs ih =>
    intro s hs hnd hx hok
    obtain ⟨hx1, hx2⟩ := hx x List.mem_cons_self
    obtain ⟨hok1, hok2⟩ := Plan.append_res_ok hok
    have hne : s.parent x ≠ some n := fun e => hx2 ((hs.inv.bidir x n).1 e)
    have hfin := setParentPlan_ok hne hok1
    have hch : (Spec.moved s x n).children n = s.children n ++ [x] := by
      rw [Spec.moved_children hs.inv, if_pos rfl, filter_ne_of_not_mem hx2]
    rw [List.nodup_cons] at hnd
    have := ih _ (setParentPlan_all hs fl fuel hx1 (v := some (.node n)) hn).2 hnd.2 (fun y hy => by
      refine ⟨(hx y (List.mem_cons_of_mem _ hy)).1, ?_⟩
      rw [hfin, hch]
      simp only [List.mem_append, List.mem_singleton, not_or]
      exact ⟨(hx y (List.mem_cons_of_mem _ hy)).2, fun e => hnd.1 (e ▸ hy)⟩) hok2
    simp only [attachLoopPlan, Plan.loop, Plan.append_ok hok1] at this ⊢
    rw [this, hfin, hch, List.append_assoc]; rfl

theorem attachLoopPlan_spec (fl : Flavor) {fuel n : Nat} :
    ∀ (xs : List Nat) (s : Forest), Spec.CanAttach s n xs → s.n < fuel →
      (attachLoopPlan fl fuel n s xs).Matches (.ok ()) (Spec.attachAll s n xs).1
        (Spec.attachAll s n xs).2 := by
  intro xs
  induction xs with
  | nil => intro s _ _; exact .skip s
  | cons x xs ih =>
    intro s A hf
    have h := setParentPlan_spec A.inv fl x (v := some (.node n)) A.node hf
    simp only [Spec.setParent_step A.inv fl A.node A.mem_head.2.1 A.mem_head.2.2] at h
    rw [attachLoopPlan, Plan.loop, h.final]
    exact h.append (ih (Spec.moved s x n) A.step ((Spec.detached_n s x).symm ▸ hf))

theorem attachPhasePlan_spec (fl : Flavor) {fuel n : Nat} {xs : List Nat} {s : Forest}
    (L : Spec.Legal s n xs) (hfuel : s.n < fuel) :
    (attachPhasePlan fl (Spec.delChildren s n).f fuel n xs).Matches (.ok ())
      (Spec.attachAll (Spec.delChildren s n).f n xs).1
      ([Spec.ev .preAttachChildren n xs (Spec.delChildren s n).f] ++
        (Spec.attachAll (Spec.delChildren s n).f n xs).2 ++
        [Spec.ev .postAttachChildren n xs (Spec.attachAll (Spec.delChildren s n).f n xs).1]) := by
  have h := attachLoopPlan_spec fl xs _ L.canAttach ((Spec.delChildren_props L.inv n).size ▸ hfuel)
  rw [attachPhasePlan, h.final]
  exact ((Plan.Matches.call ..).append h).append (.call ..)

theorem IsPlan.attachLoop (c : Cfg) (fuel : Nat) {k n : Nat} {xs : List Nat} {s : Forest}
    (h : InvSize k s) (hn : n < k) (hxs : ∀ x ∈ xs, x < k) :
    IsPlan c (Anytree.forM' xs fun x => Anytree.setParent c fuel x (some (.node n))) s
      (attachLoopPlan c.fl fuel n s xs) :=
  .forM' (I := InvSize k) _ _ (fun _ x hx hs => ⟨.setParent c fuel x _ hs.inv,
    (setParentPlan_all hs c.fl fuel (hxs x hx) (v := some (.node n)) hn).2⟩) h

/-- the `try` block of the children setter, right after the delete phase -/
theorem IsPlan.attachPhase (c : Cfg) (fuel : Nat) {k n : Nat} {xs : List Nat} {s : Forest}
    (h : InvSize k s) (hn : n < k) (hxs : ∀ x ∈ xs, x < k) (hnd : xs.Nodup) (hempty : s.children n = []) :
    IsPlan c (Anytree.hook c .preAttachChildren n xs ⨾
        Anytree.forM' xs (fun x => Anytree.setParent c fuel x (some (.node n))) ⨾
        Anytree.hook c .postAttachChildren n xs ⨾
        assertM c (fun f => (f.children n).length == xs.length)) s
      (attachPhasePlan c.fl s fuel n xs) := by
  have hloop := IsPlan.attachLoop c fuel h hn hxs
  refine (((IsPlan.hook _ _ _).seq hloop).seq (.hook _ _ _)).seq_assert fun hok => ?_
  have hok' := (Plan.append_res_ok (Plan.append_res_ok hok).1).2
  simp only [Plan.append_ok (Plan.append_res_ok hok).1, Plan.call_final]
  rw [show ((Plan.call s .preAttachChildren n xs).append (attachLoopPlan c.fl fuel n s xs)).final =
    (attachLoopPlan c.fl fuel n s xs).final from rfl,
    attachLoopPlan_ok c.fl fuel hn xs s h hnd (fun x hx => ⟨hxs x hx, by simp [hempty]⟩) hok', hempty]
  simp

/-- the exceptions of the argument checks and of the loop check (`diverged`: out of fuel) -/
def Err.isRefusal : Err → Prop
  | .treeError | .unmodelled | .loopError | .diverged => True
  | _ => False

theorem setParentPlan_refuses (fl : Flavor) (s : Forest) (fuel n : Nat) (v : Option Arg) :
    (setParentPlan fl s fuel n v).Refuses Err.isRefusal := by
  have hs := setParentPlan_shape fl s fuel n v
  generalize setParentPlan fl s fuel n v = P at hs
  cases hs with
  | nonNode => intro e he; cases fl <;> cases he <;> trivial
  | detach => exact .of_ok (detachPlan_spec s n).res
  | same _ => exact .of_ok rfl
  | loop _ _ => intro e he; cases he; trivial
  | dry _ _ => intro e he; cases he; trivial
  | move _ _ => exact .of_ok (movePlan_spec s n _).res

theorem attachPhasePlan_of_step {G : Forest → Prop} {S : Err → Prop} {fl : Flavor} {fuel n : Nat}
    {xs : List Nat} {s : Forest} (h : G s)
    (hstep : ∀ s, ∀ x ∈ xs, G s → (setParentPlan fl s fuel x (some (.node n))).All G ∧
      (setParentPlan fl s fuel x (some (.node n))).Refuses S) :
    (attachPhasePlan fl s fuel n xs).All G ∧ (attachPhasePlan fl s fuel n xs).Refuses S :=
  have hl := Plan.loop_all xs s hstep h
  ⟨((Plan.All.call h ..).append hl.1).append (.call hl.1.2 ..),
    ((Plan.Refuses.of_ok rfl).append hl.2).append (.of_ok rfl)⟩

theorem attachPhasePlan_chained {k n : Nat} {ch : Nat → Option Nat} {s : Forest}
    (h : Chained k n ch s) (fl : Flavor) (fuel : Nat) (hn : n < k) {xs : List Nat}
    (hxs : ∀ x ∈ xs, x < k) :
    (attachPhasePlan fl s fuel n xs).All (Chained k n ch) ∧
    (attachPhasePlan fl s fuel n xs).Refuses fun e =>
      (e = .loopError ∧ ∃ x ∈ xs, ∃ j, ch j = some x) ∨ (e = .diverged ∧ ¬k < fuel) :=
  attachPhasePlan_of_step h fun _ x hx hs =>
    have := setParentPlan_chained hs fl fuel (hxs x hx) hn
    ⟨this.1, fun e he => (this.2 e he).imp_left fun ⟨h1, j, hj⟩ => ⟨h1, x, hx, j, hj⟩⟩

/-- what the `except` branch of the children setter does with the exception `e` -/
def restoreM (c : Cfg) (fuel n : Nat) (old : List Nat) (e : Err) : M :=
  match e with
  | .diverged => M.throw .diverged
  | _ => setChildrenNodes c fuel n old ⨾ M.throw e

theorem restoreM_ne (c : Cfg) (fuel n : Nat) (old : List Nat) {e : Err} (he : e ≠ .diverged) :
    restoreM c fuel n old e = setChildrenNodes c fuel n old ⨾ M.throw e := by
  cases e <;> first | rfl | exact absurd rfl he

theorem setChildrenNodes_succ (c : Cfg) (fuel : Nat) {k n : Nat} {xs : List Nat} (w : World)
    (h : InvSize k w.f) (hn : n < k) (hxs : ∀ x ∈ xs, x < k) (hnd : xs.Nodup) :
    setChildrenNodes c (fuel + 1) n xs w =
      ((delChildrenPlan w.f n).run c ⨾
        M.tryCatch ((attachPhasePlan c.fl (Spec.delChildren w.f n).f fuel n xs).run c)
          (restoreM c fuel n (w.f.children n))) w := by
  have hD : InvSize k (Spec.delChildren w.f n).f :=
    ⟨Spec.inv_detachAll h.inv _, (Spec.detachAll_n _ _).trans h.size⟩
  rw [setChildrenNodes]
  refine M.seq_congr (IsPlan.delChildren c fuel n h.inv w rfl) fun w' hr => ?_
  have hw' : w'.f = (Spec.delChildren w.f n).f :=
    (Plan.run_ok hr).2.trans (delChildrenPlan_spec w.f n).final
  refine M.tryCatch_congr
    (IsPlan.attachPhase c fuel hD hn hxs hnd (Spec.delChildren_props h.inv n).children_self w' hw') fun e => ?_
  cases e <;> simp [restoreM, checkChildren_old c.fl h.inv n]

/-- one level of the children setter whose delete phase returns and whose `try` block raises `e`: it
goes on as the restore `self.children = old_children; raise` -/
theorem setChildrenNodes_raised {c : Cfg} (fuel n : Nat) (xs : List Nat) {w W W3 : World} {e : Err}
    (h : Inv w.f) (he : e ≠ .diverged) (hdel : delChildren c fuel n w = (.ok (), W))
    (htry : (hook c .preAttachChildren n xs ⨾
        forM' xs (fun x => setParent c fuel x (some (.node n))) ⨾
        hook c .postAttachChildren n xs ⨾
        assertM c (fun f => (f.children n).length == xs.length)) W = (.error e, W3)) :
    setChildrenNodes c (fuel + 1) n xs w =
      (setChildrenNodes c fuel n (w.f.children n) ⨾ M.throw e) W3 := by
  simp only [setChildrenNodes]
  rw [M.seq_ok hdel]
  simp only [M.tryCatch, htry, checkChildren_old c.fl h n]

end Anytree
